import CorsVerif.Model.Basic
import CorsVerif.Model.Conc
import CorsVerif.Model.Config
import CorsVerif.Model.Errors
import CorsVerif.Model.GoRt
import CorsVerif.Model.Headers
import CorsVerif.Model.Ix
import CorsVerif.Model.IxTree
import CorsVerif.Model.Net
import CorsVerif.Model.Origins
import CorsVerif.Model.Serve
import CorsVerif.Model.Tree
import CorsVerif.Model.Util
import CorsVerif.Gen.Facts
import CorsVerif.Gen.Pipeline
import CorsVerif.Spec.ACRH
import CorsVerif.Spec.Basic
import CorsVerif.Spec.Browser
import CorsVerif.Spec.Denote
import CorsVerif.Spec.Fetch
import CorsVerif.Spec.Grammar
import CorsVerif.Spec.Prohibitions
import CorsVerif.Proofs.ACRH
import CorsVerif.Proofs.Accept
import CorsVerif.Proofs.Accepted
import CorsVerif.Proofs.BinarySearch
import CorsVerif.Proofs.BrowserLists
import CorsVerif.Proofs.Bytes
import CorsVerif.Proofs.C06Assembly
import CorsVerif.Proofs.Case
import CorsVerif.Proofs.CfgRoundTrip
import CorsVerif.Proofs.Elems
import CorsVerif.Proofs.Folds
import CorsVerif.Proofs.Handlers
import CorsVerif.Proofs.IxRefine
import CorsVerif.Proofs.IxTreeRefine
import CorsVerif.Proofs.Lexers
import CorsVerif.Proofs.Lists
import CorsVerif.Proofs.Literals
import CorsVerif.Proofs.NamesNe
import CorsVerif.Proofs.NetFacts
import CorsVerif.Proofs.NetRoundTrip
import CorsVerif.Proofs.Node
import CorsVerif.Proofs.Order
import CorsVerif.Proofs.Pattern
import CorsVerif.Proofs.PatternText
import CorsVerif.Proofs.Pipeline
import CorsVerif.Proofs.Ports
import CorsVerif.Proofs.Render
import CorsVerif.Proofs.RenderIdem
import CorsVerif.Proofs.Respell
import CorsVerif.Proofs.RoundTrip
import CorsVerif.Proofs.Serve
import CorsVerif.Proofs.Sets
import CorsVerif.Proofs.Sorted
import CorsVerif.Proofs.Stable
import CorsVerif.Proofs.StoreAbs
import CorsVerif.Proofs.StoreExact
import CorsVerif.Proofs.StoreOwn
import CorsVerif.Proofs.Tables
import CorsVerif.Proofs.Tokens
import CorsVerif.Proofs.Translated
import CorsVerif.Proofs.Tree
import CorsVerif.Proofs.TreeRoundTrip
import CorsVerif.Proofs.Twins
import CorsVerif.Proofs.Validate
import CorsVerif.Proofs.Vary
import CorsVerif.Proofs.Verdict
import CorsVerif.Props.C01
import CorsVerif.Props.C02
import CorsVerif.Props.C03
import CorsVerif.Props.C04
import CorsVerif.Props.C05
import CorsVerif.Props.C06
import CorsVerif.Props.C07
import CorsVerif.Props.C08
import CorsVerif.Props.C09
import CorsVerif.Props.C10
import CorsVerif.Props.C11
import CorsVerif.Props.C12
import CorsVerif.Props.C13
import CorsVerif.Props.C14
import CorsVerif.Props.C15
import CorsVerif.Props.C16
import CorsVerif.Props.C17
import CorsVerif.Props.C18
import CorsVerif.Props.C19
import CorsVerif.Driver.Codec
