import CorsVerif.Model.Origins
/-
  Model of /repo/internal/origins/radix.go.

  Go walks host strings from their last byte.  The model stores every key *reversed*
  (one `reverse` at the boundary), so Go's "common suffix" is the model's common prefix
  and `lastByte s` is `s.head?`.  `edges`/`children` and `schemes`/`ports` (parallel
  slices in Go) are lists of pairs.
-/
namespace Cors
open Gen

/-- `origins.node`. `suf` is stored reversed. `kids` is sorted by label (an invariant that
is proved, not assumed: see `Node.Inv` in `Proofs/Node`). -/
inductive Node where
  | mk (suf : Bytes) (schemes : List (Bytes × List Int)) (kids : List (Nat × Node))
deriving Repr, Inhabited

namespace Node

def suf : Node → Bytes | .mk s _ _ => s
def schemes : Node → List (Bytes × List Int) | .mk _ s _ => s
def kids : Node → List (Nat × Node) | .mk _ _ k => k

def empty : Node := .mk [] [] []

/-- `Tree.IsEmpty`. -/
def isEmpty (n : Node) : Bool := n.schemes.isEmpty && n.kids.isEmpty

def wildcardPort : Int := Facts.origins_wildcardPort
def portOffset : Int := Facts.origins_portOffset

/-- The first lines of both `node.add` and `node.contains`:
`if wildcardSubs { port -= portOffset; wildcardPort -= portOffset }`. -/
def code (port : Int) (wild : Bool) : Int := if wild then port - portOffset else port
def wildCode (wild : Bool) : Int := if wild then wildcardPort - portOffset else wildcardPort

/-- Look up the port list of `scheme` (Go: `slices.BinarySearch(n.schemes, scheme)`). -/
def lookupScheme (scheme : Bytes) : List (Bytes × List Int) → Option (List Int)
  | [] => none
  | (s, ps) :: rest => if s == scheme then some ps else lookupScheme scheme rest

/-- `node.contains(scheme, port, wildcardSubs)` for an arbitrary `int` port. -/
def containsPort (schemes : List (Bytes × List Int)) (scheme : Bytes) (port : Int) (wild : Bool) : Bool :=
  match lookupScheme scheme schemes with
  | none => false
  | some ports => ports.contains (code port wild) || ports.contains (wildCode wild)

/-- `deleteSameSign`. -/
def deleteSameSign (s : List Int) (v : Int) : List Int :=
  if v < 0 then s.dropWhile (· < 0) else s.takeWhile (· < 0)

/-- The body of `node.add` once `scheme` is known not to contain the port:
insert in scheme order (`insert(n.schemes, i, scheme)`), or update the port list in place. -/
def addScheme (scheme : Bytes) (c : Int) (isWild : Bool) : List (Bytes × List Int) → List (Bytes × List Int)
  | [] => [(scheme, [c])]
  | (s, ps) :: rest =>
    if s == scheme then
      let ps' := if isWild then deleteSameSign ps c else ps
      (s, insertSorted (fun a b => decide (a < b)) c ps') :: rest
    else if Bytes.lt scheme s then (scheme, [c]) :: (s, ps) :: rest
    else (s, ps) :: addScheme scheme c isWild rest

/-- `node.add`. Note that, exactly as in the Go code, the duplicate test calls
`node.contains` with the *already offset* port and the same `wildcardSubs` flag, so for
`wildcardSubs = true` it only detects subsumption by a wildcard port (and duplicates of
wildcard-subdomain entries are stored twice). -/
def addPort (schemes : List (Bytes × List Int)) (scheme : Bytes) (port : Int) (wild : Bool) : List (Bytes × List Int) :=
  if containsPort schemes scheme (code port wild) wild then schemes
  else addScheme scheme (code port wild) (code port wild == wildCode wild) schemes

/-- `splitAtCommonSuffix a b` in the reversed view: (rest of a, rest of b, common prefix). -/
def splitCommon : Bytes → Bytes → Bytes × Bytes × Bytes
  | a :: as, b :: bs =>
    if a == b then
      match splitCommon as bs with
      | (ra, rb, c) => (ra, rb, a :: c)
    else (a :: as, b :: bs, [])
  | as, bs => (as, bs, [])

/-- A fresh leaf `node{suf: s}` followed by `add`. -/
def leaf (s : Bytes) (scheme : Bytes) (port : Int) (wild : Bool) : Node :=
  .mk s (addPort [] scheme port wild) []

/-- `upsertEdge` on a sorted edge list (insert when absent, replace when present). -/
def upsert (label : Nat) (child : Node) : List (Nat × Node) → List (Nat × Node)
  | [] => [(label, child)]
  | (l, c) :: rest =>
    if label < l then (label, child) :: (l, c) :: rest
    else if label == l then (l, child) :: rest
    else (l, c) :: upsert label child rest

mutual
/-- One iteration of the loop of `Tree.Insert` at node `n` with remaining (reversed) key `s`. -/
def insert : Node → Bytes → Bytes → Int → Bool → Node
  | .mk suf schemes kids, s, scheme, port, wild =>
    match s with
    | [] => .mk suf (addPort schemes scheme port wild) kids
    | label :: _ =>
      if containsPort schemes scheme port true then .mk suf schemes kids
      else .mk suf schemes (insertKids kids label s scheme port wild)

/-- Find the edge labelled `label` (Go: binary search over sorted `edges`) and act on it. -/
def insertKids : List (Nat × Node) → Nat → Bytes → Bytes → Int → Bool → List (Nat × Node)
  | [], label, s, scheme, port, wild => [(label, leaf s scheme port wild)]
  | (l, c) :: rest, label, s, scheme, port, wild =>
    if label < l then (label, leaf s scheme port wild) :: (l, c) :: rest
    else if label == l then (l, insertChild c s scheme port wild) :: rest
    else (l, c) :: insertKids rest label s scheme port wild

/-- The edge exists: descend when `child.suf` is consumed, otherwise split the child. -/
def insertChild : Node → Bytes → Bytes → Int → Bool → Node
  | .mk csuf cschemes ckids, s, scheme, port, wild =>
    match splitCommon s csuf with
    | (restS, [], _) => insert (.mk csuf cschemes ckids) restS scheme port wild
    | (restS, l1 :: restC, common) =>
      let grandChild1 : Node := .mk (l1 :: restC) cschemes ckids
      match restS with
      | [] => .mk common (addPort [] scheme port wild) [(l1, grandChild1)]
      | l2 :: _ => .mk common [] (upsert l2 (leaf restS scheme port wild) [(l1, grandChild1)])
end

/-- `stripPrefix p s`: `some rest` when `s = p ++ rest`. -/
def stripPrefix : Bytes → Bytes → Option Bytes
  | [], s => some s
  | _ :: _, [] => none
  | a :: p, b :: s => if a == b then stripPrefix p s else none

mutual
/-- One iteration of the loop of `Tree.Contains` at node `n` with remaining (reversed) host. -/
def contains : Node → Bytes → Bytes → Int → Bool
  | .mk _ schemes kids, host, scheme, port =>
    match host with
    | [] => containsPort schemes scheme port false
    | label :: _ =>
      if containsPort schemes scheme port true then true
      else containsKids kids label host scheme port

def containsKids : List (Nat × Node) → Nat → Bytes → Bytes → Int → Bool
  | [], _, _, _, _ => false
  | (l, c) :: rest, label, host, scheme, port =>
    if label == l then
      match c with
      | .mk csuf cschemes ckids =>
        match stripPrefix csuf host with
        | none => false
        | some host' => contains (.mk csuf cschemes ckids) host' scheme port
    else containsKids rest label host scheme port
end

/-- Rendering of one stored entry by `node.elems`. `host` is the un-reversed accumulated suffix. -/
def renderEntry (scheme host : Bytes) (c : Int) : Bytes :=
  -- only IPv6 hosts contain colons; they are stored without brackets
  let host := if host.contains Facts.origins_hostPortSep then [91] ++ host ++ [93] else host
  let wild := c < 0
  let port := if wild then c + portOffset else c
  let base := scheme ++ Facts.origins_schemeHostSep ++ (if wild then Facts.origins_subdomainWildcard else []) ++ host
  if port == 0 then base
  else if port == wildcardPort then base ++ [Facts.origins_hostPortSep] ++ Facts.origins_portWildcard
  else base ++ [Facts.origins_hostPortSep] ++ Bytes.itoa port.toNat

mutual
/-- `node.elems`: `acc` is the (un-reversed) suffix accumulated from the ancestors. -/
def elems : Node → Bytes → List Bytes
  | .mk suf schemes kids, acc =>
    let host := suf.reverse ++ acc
    (schemes.flatMap fun (scheme, ports) => ports.map (renderEntry scheme host)) ++ elemsKids kids host

def elemsKids : List (Nat × Node) → Bytes → List Bytes
  | [], _ => []
  | (_, c) :: rest, host => elems c host ++ elemsKids rest host
end

end Node

/-- `origins.Tree`. -/
abbrev Tree := Node

namespace Tree

/-- `Tree.Insert`. -/
def insert (t : Tree) (p : Pattern) : Tree :=
  match p.value with
  | 42 :: s => Node.insert t s.reverse p.scheme p.port true
  | s => Node.insert t s.reverse p.scheme p.port false

/-- `Tree.Contains`. -/
def contains (t : Tree) (o : Origin) : Bool :=
  Node.contains t o.host.value.reverse o.scheme o.port

/-- `Tree.Elems`. -/
def elems (t : Tree) : List Bytes := sortBy Bytes.lt (Node.elems t [])

end Tree
end Cors
