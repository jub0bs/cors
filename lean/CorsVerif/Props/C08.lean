import CorsVerif.Proofs.Translated
import CorsVerif.Proofs.Accepted
/-
  C08 — A rejected Reconfigure leaves the middleware exactly as it was.

  For every prior state (passthrough or any configuration, debug on or off) and every Config
  that validation rejects (however many violations): Reconfigure returns the error and the state
  — configuration and debug flag — is literally unchanged; hence every request gets the same
  response and Config() returns an equal value.
-/
namespace Cors

theorem C08 (ext : Ext) (m : Mw) (cfg : Config) (e : Err) (h : newInternalConfig ext cfg = .error e) :
    m.reconfigure ext (some cfg) = (some e, m) := by
  simp [Mw.reconfigure, h]

/-- `Reconfigure` returns a non-nil error exactly when validation reports at least one violation. -/
theorem C08_error_iff (ext : Ext) (m : Mw) (cfg : Config) :
    (m.reconfigure ext (some cfg)).1.isSome = true ↔ Validate.allErrs ext cfg ≠ [] := by
  cases h : newInternalConfig ext cfg with
  | error e => simp [Mw.reconfigure, h, ((rejected_iff ext cfg e).mp h).1]
  | ok i => simp [Mw.reconfigure, h, ((accepted_iff ext cfg i).mp h).1]

/-- **C08 (observations).** Whenever Reconfigure returns a non-nil error, every response, the
debug flag and Config() are as before. -/
theorem C08_obs (ext : Ext) (m : Mw) (cfg : Config) (h : (m.reconfigure ext (some cfg)).1.isSome = true) :
    (∀ r pre, (m.reconfigure ext (some cfg)).2.serve r pre = m.serve r pre) ∧
    (m.reconfigure ext (some cfg)).2.config = m.config ∧
    (m.reconfigure ext (some cfg)).2.debug = m.debug := by
  cases hc : newInternalConfig ext cfg with
  | error e => rw [C08 ext m cfg e hc]; exact ⟨fun _ _ => rfl, rfl, rfl⟩
  | ok icfg => simp [Mw.reconfigure, hc] at h

/-- Non-vacuity: the empty configuration is rejected (no origin pattern). -/
example (ext : Ext) : ∃ e, newInternalConfig ext {} = .error e := ⟨_, rfl⟩

#print axioms C08
#print axioms C08_error_iff
#print axioms C08_obs

/-- **C08 (translated state writers).** `Reconfigure` and `SetDebug`, regenerated from middleware.go on every run, are `Mw.reconfigure` and `Mw.setDebug`
(`Translated.reconfigure_eq`, where the claim is spelt out, and `setDebug_eq`). -/
theorem C08_state_translated (ext : Ext) (m : Mw) (cfg : Option Config) (b : Bool) :
    Gen.GoSrc.reconfigure ext m cfg = Mw.reconfigure ext m cfg ∧ Gen.GoSrc.setDebug m b = Mw.setDebug m b :=
  ⟨Translated.reconfigure_eq ext m cfg, Translated.setDebug_eq m b⟩

#print axioms C08_state_translated

/-- **C08 (translated validators).** `validatePreflightStatus` and `validateMaxAge`, regenerated from config.go on every run, are `Validate.status` and
`Validate.maxAge` for every integer (`Translated.validatePreflightStatus_eq`, where the claim is spelt out, and `validateMaxAge_eq`). -/
theorem C08_validators_translated (x : Int) :
    Gen.GoSrc.validatePreflightStatus x = (match Validate.status x with | .ok v => (none, v) | .error e => (some e, 0)) ∧
    Gen.GoSrc.validateMaxAge x = (match Validate.maxAge x with | .ok v => (none, v) | .error e => (some e, [])) :=
  ⟨Translated.validatePreflightStatus_eq x, Translated.validateMaxAge_eq x⟩

#print axioms C08_validators_translated

/-- **C08 (translated loop bodies).** The loop bodies of `validateMethods`, `validateRequestHeaders` and `validateResponseHeaders`, regenerated from config.go on
every run, are the model's step functions, hence the loops its folds (`Translated.loops_eq`, where the claim is spelt out). -/
theorem C08_loops_translated (credentialed : Bool) (names : List Bytes) :
    names.foldl Gen.GoSrc.methodStep {} = names.foldl Validate.methodStep {} ∧
    names.foldl (Gen.GoSrc.reqHdrStep credentialed) {} = names.foldl (Validate.reqHdrStep credentialed) {} ∧
    names.foldl (Gen.GoSrc.resHdrStep credentialed) {} = names.foldl (Validate.resHdrStep credentialed) {} :=
  Translated.loops_eq credentialed names

#print axioms C08_loops_translated

end Cors
