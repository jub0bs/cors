import CorsVerif.Proofs.Handlers
import CorsVerif.Proofs.Pipeline
import CorsVerif.Proofs.Translated
import CorsVerif.Proofs.Accepted
/-
  C03 — CORS response headers are well-formed and never over-grant, for any request.

  Stated for every decision oracle `dec` (DESIGN.md 3d: "allowed origin" is read as
  `allow-all ∨ dec.allowed (first Origin value)`; composing with C01 gives the statement in
  terms of pattern denotations), every internal configuration in which allow-all excludes
  credentialed access, both debug modes, every request (any method, any header lookups: absent,
  zero values, many values, any bytes) and every set of response headers already present.
  "Emitted" means: differs from what was there before.
-/
namespace Cors
open Gen Serve Pipeline NamesNe

/-- The request has an allowed origin: the configuration allows all origins, or the first
`Origin` value is allowed (see DESIGN.md 8.1). -/
def originOK (dec : Dec) (icfg : ICfg) (r : Req) : Prop :=
  icfg.tree.isEmpty = true ∨ ∃ o, r.hdrs.first Facts.headers_Origin = some o ∧ dec.allowed o = true

/-- The echo of an allowed origin: exactly one value, byte-equal to the first `Origin` value. -/
def echoes (dec : Dec) (r : Req) (v : Option (List Bytes)) : Prop :=
  ∃ o, r.hdrs.first Facts.headers_Origin = some o ∧ v = some [o] ∧ dec.allowed o = true

def corsResponseNames : List Bytes :=
  [Facts.headers_ACAO, Facts.headers_ACAC, Facts.headers_ACAM, Facts.headers_ACAH, Facts.headers_ACAPN,
   Facts.headers_ACMA, Facts.headers_ACEH]

/-- The conjunction C03 demands of a response. -/
structure C03Spec (dec : Dec) (icfg : ICfg) (r : Req) (pre : HdrMap) (resp : Resp) : Prop where
  /-- at most one ACAO value: `*` (only non-credentialed allow-all) or the echo of an allowed origin -/
  acao : resp.hdrs Facts.headers_ACAO = pre Facts.headers_ACAO ∨
    (resp.hdrs Facts.headers_ACAO = some [Facts.headers_ValueWildcard] ∧ icfg.tree.isEmpty = true ∧ icfg.credentialed = false) ∨
    echoes dec r (resp.hdrs Facts.headers_ACAO)
  /-- ACAC only `true`, only when credentialed, only next to an echoed allowed origin -/
  acac : resp.hdrs Facts.headers_ACAC = pre Facts.headers_ACAC ∨
    (resp.hdrs Facts.headers_ACAC = some [Facts.headers_ValueTrue] ∧ icfg.credentialed = true ∧
      echoes dec r (resp.hdrs Facts.headers_ACAO))
  /-- without an allowed origin: no Access-Control-Allow-* / -Expose-* / -Max-Age header at all -/
  nothing : ¬ originOK dec icfg r → ∀ n ∈ corsResponseNames, resp.hdrs n = pre n
  /-- Allow-Methods / -Headers / -Private-Network and Max-Age only on preflight responses -/
  preflightOnly : ∀ n ∈ [Facts.headers_ACAM, Facts.headers_ACAH, Facts.headers_ACAPN, Facts.headers_ACMA],
    resp.hdrs n ≠ pre n → r.isPreflight = true
  /-- Max-Age carries exactly the configured value -/
  acma : resp.hdrs Facts.headers_ACMA = pre Facts.headers_ACMA ∨ resp.hdrs Facts.headers_ACMA = some icfg.acma
  /-- Expose-Headers only on other responses, carrying exactly the configured value -/
  aceh : resp.hdrs Facts.headers_ACEH = pre Facts.headers_ACEH ∨
    (r.isPreflight = false ∧ resp.hdrs Facts.headers_ACEH = some [icfg.aceh])

/-- What the accumulation buffer may hold under the keys C03 talks about, as an invariant (`BufSpec_empty`: it holds at
the start).  `preflight_spec` goes through the closed form of the handler and does not use it. -/
structure BufSpec (dec : Dec) (icfg : ICfg) (o : Bytes) (b : Buf) : Prop where
  acao : b Facts.headers_ACAO = none ∨
    (b Facts.headers_ACAO = some [Facts.headers_ValueWildcard] ∧ icfg.tree.isEmpty = true ∧ icfg.credentialed = false) ∨
    (b Facts.headers_ACAO = some [o] ∧ dec.allowed o = true)
  acac : b Facts.headers_ACAC = none ∨
    (b Facts.headers_ACAC = some [Facts.headers_ValueTrue] ∧ icfg.credentialed = true ∧
      b Facts.headers_ACAO = some [o] ∧ dec.allowed o = true)
  aceh : b Facts.headers_ACEH = none
  acma : b Facts.headers_ACMA = none

theorem BufSpec_empty (dec : Dec) (icfg : ICfg) (o : Bytes) : BufSpec dec icfg o HdrMap.empty :=
  ⟨Or.inl rfl, Or.inl rfl, rfl, rfl⟩

theorem aceh_ne_acma : Facts.headers_ACEH ≠ Facts.headers_ACMA := aceh_acma

theorem OriginDecision.ok {dec : Dec} {icfg : ICfg} {r : Req} {a c : Option (List Bytes)}
    (h : OriginDecision dec icfg r a c) : (a = none ∧ c = none) ∨ originOK dec icfg r := by
  cases h with
  | nothing => exact Or.inl ⟨rfl, rfl⟩
  | star ht _ => exact Or.inr (Or.inl ht)
  | echo o ho hal => exact Or.inr (Or.inr ⟨o, ho, hal⟩)

/-- A response whose Allow-Origin, Allow-Credentials, Max-Age and Expose-Headers
are the old ones overwritten by `a`, `c`, `x`, `e` where these were decided, and which changes Allow-Methods, -Headers
and -Private-Network on a preflight with an allowed origin only, meets `C03Spec` if the four values are the right ones. -/
theorem C03Spec_of_decided {dec : Dec} {icfg : ICfg} {r : Req} {pre : HdrMap} {resp : Resp} {a c x e : Option (List Bytes)}
    (hA : resp.hdrs Facts.headers_ACAO = a.or (pre Facts.headers_ACAO))
    (hC : resp.hdrs Facts.headers_ACAC = c.or (pre Facts.headers_ACAC))
    (hX : resp.hdrs Facts.headers_ACMA = x.or (pre Facts.headers_ACMA))
    (hE : resp.hdrs Facts.headers_ACEH = e.or (pre Facts.headers_ACEH))
    (hrest : ∀ n ∈ [Facts.headers_ACAM, Facts.headers_ACAH, Facts.headers_ACAPN], resp.hdrs n ≠ pre n →
      r.isPreflight = true ∧ originOK dec icfg r)
    (hd : OriginDecision dec icfg r a c)
    (hx : x = none ∨ (x = some icfg.acma ∧ r.isPreflight = true ∧ originOK dec icfg r))
    (he : e = none ∨ (e = some [icfg.aceh] ∧ r.isPreflight = false ∧ originOK dec icfg r)) :
    C03Spec dec icfg r pre resp := by
  have hrest' : ∀ n ∈ [Facts.headers_ACAM, Facts.headers_ACAH, Facts.headers_ACAPN], ¬ originOK dec icfg r →
      resp.hdrs n = pre n := fun n hn hno => Decidable.byContradiction fun hne => hno (hrest n hn hne).2
  have hx' : ¬ originOK dec icfg r → x = none := fun hno => hx.resolve_right fun h => hno h.2.2
  have he' : ¬ originOK dec icfg r → e = none := fun hno => he.resolve_right fun h => hno h.2.2
  have hd' : ¬ originOK dec icfg r → a = none ∧ c = none := fun hno => hd.ok.resolve_right hno
  refine { acao := ?acao, acac := ?acac, nothing := ?nothing, preflightOnly := ?preflightOnly, acma := ?acma, aceh := ?aceh }
  case acao =>
    rw [hA]
    cases hd with
    | nothing => exact Or.inl rfl
    | star ht hc => exact Or.inr (Or.inl ⟨rfl, ht, hc⟩)
    | echo o ho hal => exact Or.inr (Or.inr ⟨o, ho, rfl, hal⟩)
  case acac =>
    rw [hC, hA]
    cases hd with
    | nothing => exact Or.inl rfl
    | star ht hc => exact Or.inl rfl
    | echo o ho hal =>
      cases hcr : icfg.credentialed with
      | false => exact Or.inl rfl
      | true => exact Or.inr ⟨rfl, rfl, o, ho, rfl, hal⟩
  case nothing =>
    intro hno n hn
    obtain ⟨rfl, rfl⟩ := hd' hno
    simp only [corsResponseNames, List.mem_cons, List.not_mem_nil, or_false] at hn
    rcases hn with rfl | rfl | rfl | rfl | rfl | rfl | rfl
    · exact hA
    · exact hC
    iterate 3 exact hrest' _ (by simp) hno
    · rw [hX, hx' hno]; rfl
    · rw [hE, he' hno]; rfl
  case preflightOnly =>
    intro n hn hne
    simp only [List.mem_cons, List.not_mem_nil, or_false] at hn
    rcases hn with rfl | rfl | rfl | rfl
    iterate 3 exact (hrest _ (by simp) hne).1
    · rcases hx with rfl | h
      · exact absurd hX hne
      · exact h.2.1
  case acma =>
    rw [hX]
    rcases hx with rfl | h
    · exact Or.inl rfl
    · exact Or.inr (by rw [h.1]; rfl)
  case aceh =>
    rw [hE]
    rcases he with rfl | h
    · exact Or.inl rfl
    · exact Or.inr ⟨h.2.1, by rw [h.1]; rfl⟩

/-- The handlers of requests that are not preflights: four optional writes, of which three matter here. -/
theorem C03Spec_written {dec : Dec} {icfg : ICfg} {r : Req} (pre : HdrMap) (v : Option Bytes)
    {a c e : Option (List Bytes)} (hp : r.isPreflight = false) (hd : OriginDecision dec icfg r a c)
    (he : e = none ∨ (e = some [icfg.aceh] ∧ originOK dec icfg r)) :
    C03Spec dec icfg r pre { hdrs := written pre v a c e, status := none, next := true } := by
  have hoth : ∀ n ∈ [Facts.headers_ACAM, Facts.headers_ACAH, Facts.headers_ACAPN, Facts.headers_ACMA],
      written pre v a c e n = pre n := by
    intro n hn
    refine written_other pre v a c e ?_
    simp only [List.mem_cons, List.not_mem_nil, or_false] at hn
    rcases hn with rfl | rfl | rfl | rfl <;> simp
  refine C03Spec_of_decided (x := none) (written_acao ..) (written_acac ..) (hoth _ (by simp)) (written_aceh ..)
    (fun n hn hne => absurd (hoth n ?_) hne) hd (Or.inl rfl) (he.imp_right fun h => ⟨h.1, hp, h.2⟩)
  simp only [List.mem_cons, List.not_mem_nil, or_false] at hn ⊢
  exact hn.imp_right (Or.imp_right Or.inl)

theorem nonCORS_spec (dec : Dec) (icfg : ICfg) (hwf : icfg.tree.isEmpty = true → icfg.credentialed = false)
    (r : Req) (pre : HdrMap) (isOpt : Bool) (hp : r.isPreflight = false) :
    C03Spec dec icfg r pre { hdrs := handleNonCORS icfg pre isOpt, status := none, next := true } := by
  rw [handleNonCORS_closed]
  refine C03Spec_written pre _ hp (nonCORS_decision hwf) ?_
  unfold nonCORSACEH
  cases hc : (!icfg.pnaNoCors && icfg.tree.isEmpty && !icfg.aceh.isEmpty)
  · exact Or.inl rfl
  · simp only [Bool.and_eq_true] at hc
    exact Or.inr ⟨rfl, Or.inl hc.1.2⟩

/-- No well-formedness is needed on this path: `*` is written only when the configuration
is not credentialed. -/
theorem actual_spec (dec : Dec) (icfg : ICfg) (r : Req) (pre : HdrMap) (isOpt : Bool) (o : Bytes)
    (ho : r.hdrs.first Facts.headers_Origin = some o) (hp : r.isPreflight = false) :
    C03Spec dec icfg r pre { hdrs := handleCORSActual dec icfg pre o isOpt, status := none, next := true } := by
  rw [handleCORSActual_closed]
  have hd := actual_decision (dec := dec) (icfg := icfg) ho
  refine C03Spec_written pre _ hp hd ?_
  unfold actualACEH
  cases hs : (actualACAO dec icfg o).isSome
  · exact Or.inl rfl
  · cases icfg.aceh.isEmpty
    · refine Or.inr ⟨rfl, hd.ok.resolve_left fun h => ?_⟩
      rw [h.1] at hs
      cases hs
    · exact Or.inl rfl

theorem preflight_spec (dec : Dec) (icfg : ICfg) (r : Req) (pre : HdrMap) (o a : Bytes) (dbg : Bool)
    (ho : r.hdrs.first Facts.headers_Origin = some o) (hp : r.isPreflight = true) :
    C03Spec dec icfg r pre (handleCORSPreflight dec icfg pre r.hdrs o a dbg) := by
  have hv := preflightVary_other pre
  rw [handleCORSPreflight_closed]
  cases hc : originCond dec icfg o with
  | false =>
    -- nothing is decided: only Vary changes
    simp only [Bool.false_and, Bool.and_false, Bool.false_eq_true, if_false, preflightWritten_none]
    exact C03Spec_of_decided (a := none) (c := none) (x := none) (e := none) (hv _ acao_vary) (hv _ acac_vary)
      (hv _ acma_vary) (hv _ aceh_vary) (fun n hn hne => absurd (hv n (by
        simp only [List.mem_cons, List.not_mem_nil, or_false] at hn
        rcases hn with rfl | rfl | rfl <;> simp)) hne)
      .nothing (Or.inl rfl) (Or.inl rfl)
  | true =>
    simp only [Bool.and_true, Bool.true_and]
    have hd := expACAO_decision (dec := dec) (icfg := icfg) ho hc
    have hok : originOK dec icfg r := hd.ok.resolve_left fun h => by
      unfold expACAO at h
      split at h <;> cases h.1
    refine C03Spec_of_decided (e := none) (preflightWritten_acao ..) (preflightWritten_acac ..) (preflightWritten_acma ..)
      ((preflightWritten_other _ _ _ _ _ _ _ (by simp [isPipelineKey]) aceh_acma).trans (hv _ aceh_vary))
      (fun _ _ _ => ⟨hp, hok⟩) (hd.guard _) ?_ (Or.inl rfl)
    -- the Max-Age value: decided iff the pipeline succeeds and a max-age is configured
    split
    · exact Or.inr ⟨rfl, hp, hok⟩
    · exact Or.inl rfl

/-- **C03.** For every decision oracle, well-formed configuration, debug mode, request and pre-set
response headers, the response meets every clause of `C03Spec`. -/
theorem C03 (dec : Dec) (icfg : ICfg) (hwf : icfg.tree.isEmpty = true → icfg.credentialed = false)
    (dbg : Bool) (r : Req) (pre : HdrMap) :
    C03Spec dec icfg r pre (serveDec dec icfg dbg r pre) := by
  cases hp : r.isPreflight with
  | true =>
    obtain ⟨o, a, ho, _, e⟩ := serveDec_preflight hp
    rw [e]
    exact preflight_spec dec icfg r pre o a dbg ho hp
  | false =>
    rw [serveDec_nonpreflight hp]
    unfold nonPreflightHdrs
    cases ho : r.hdrs.first Facts.headers_Origin with
    | none => exact nonCORS_spec dec icfg hwf r pre _ hp
    | some o => exact actual_spec dec icfg r pre _ o ho hp

/-- The statement for the model's own decisions (tree and lexer). -/
theorem C03_model (icfg : ICfg) (hwf : icfg.WF) (dbg : Bool) (r : Req) (pre : HdrMap) :
    C03Spec (modelDec icfg) icfg r pre (serve icfg dbg r pre) :=
  C03 (modelDec icfg) icfg hwf.star_not_cred dbg r pre

#print axioms C03
#print axioms C03_model

/-- **C03 for every accepted configuration**, with the model's own tree and lexer as decisions. -/
theorem C03_accepted (ext : Ext) (cfg : Config) (icfg : ICfg) (h : newInternalConfig ext cfg = .ok icfg)
    (dbg : Bool) (r : Req) (pre : HdrMap) : C03Spec (modelDec icfg) icfg r pre (serve icfg dbg r pre) :=
  C03_model icfg (accepted_wf ext cfg icfg h) dbg r pre

#print axioms C03_accepted

/-- **C03 (translated pipeline).** The four steps of the preflight pipeline, regenerated from middleware.go on every run, are the model's
(`Translated.pipeline_eq`, where the claim is spelt out). -/
theorem C03_pipeline_translated (icfg : ICfg) (buf : Serve.Buf) (reqHdrs : HdrMap) (origin acrm : Bytes) (debug : Bool) :
    Gen.GoSrc.processOriginForPreflight icfg buf origin [origin] = GoRt.result buf (Serve.processOriginForPreflight (Serve.modelDec icfg) icfg buf origin) ∧
    Gen.GoSrc.processACRPN icfg buf reqHdrs = GoRt.result buf (Serve.processACRPN icfg buf reqHdrs) ∧
    Gen.GoSrc.processACRM icfg buf acrm [acrm] = GoRt.result buf (Serve.processACRM icfg buf acrm) ∧
    Gen.GoSrc.processACRH icfg buf reqHdrs debug = GoRt.result buf (Serve.processACRH (Serve.modelDec icfg) icfg buf reqHdrs debug) :=
  Translated.pipeline_eq icfg buf reqHdrs origin acrm debug

#print axioms C03_pipeline_translated

/-- **C03 (translated handlers).** `handleNonCORS` and `handleCORSActual`, regenerated from middleware.go on every run, are the model's
(`Translated.handlers_eq`, where the claim is spelt out). -/
theorem C03_handlers_translated (icfg : ICfg) (h : HdrMap) (origin : Bytes) (isOPTIONS : Bool) :
    Gen.GoSrc.handleNonCORS icfg h isOPTIONS = Serve.handleNonCORS icfg h isOPTIONS ∧
    Gen.GoSrc.handleCORSActual icfg h origin [origin] isOPTIONS =
      (Serve.handleCORSActual (Serve.modelDec icfg) icfg h origin isOPTIONS, none) :=
  Translated.handlers_eq icfg h origin isOPTIONS

#print axioms C03_handlers_translated

/-- **C03 (translated preflight handler).** `handleCORSPreflight`, regenerated from middleware.go on every run, is the model's: header map and status
(`Translated.handleCORSPreflight_eq`, where the claim is spelt out). -/
theorem C03_preflight_translated (icfg : ICfg) (h reqHdrs : HdrMap) (origin acrm : Bytes) (debug : Bool) :
    Gen.GoSrc.handleCORSPreflight icfg h reqHdrs origin [origin] acrm [acrm] debug =
      ((Serve.handleCORSPreflight (Serve.modelDec icfg) icfg h reqHdrs origin acrm debug).hdrs,
       (Serve.handleCORSPreflight (Serve.modelDec icfg) icfg h reqHdrs origin acrm debug).status) :=
  Translated.handleCORSPreflight_eq icfg h reqHdrs origin acrm debug

#print axioms C03_preflight_translated

/-- **C03 (translated closure).** The closure returned by `Wrap`, regenerated from middleware.go on every run, is `Serve.serve`
(`Translated.serveClosure_eq`, where the claim is spelt out). -/
theorem C03_closure_translated (icfg : ICfg) (debug : Bool) (r : Req) (pre : HdrMap) :
    Gen.GoSrc.serveClosure icfg debug r pre = Serve.serve icfg debug r pre :=
  Translated.serveClosure_eq icfg debug r pre

#print axioms C03_closure_translated

end Cors
