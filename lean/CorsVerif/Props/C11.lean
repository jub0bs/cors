import CorsVerif.Proofs.Handlers
import CorsVerif.Proofs.Vary
import CorsVerif.Proofs.Translated
/-
  C11 — Preflights are answered by the middleware alone; everything else passes intact.

  Stated for every decision oracle `dec` (hence in particular for the model's own tree and
  scanner), every internal configuration (accepted or not), both debug modes, every request and
  every set of response headers already present.
-/
namespace Cors
open Gen Serve

/-- **C11 (dispatch).** The wrapped handler is invoked exactly when the request is not a preflight
(the model invokes it at most once by construction: `next : Bool`). -/
theorem C11_dispatch (dec : Dec) (icfg : ICfg) (dbg : Bool) (r : Req) (pre : HdrMap) :
    (serveDec dec icfg dbg r pre).next = !r.isPreflight := serveDec_next dec icfg dbg r pre

/-- **C11 (preflight).** A preflight gets a status from the middleware itself. (The model of the
middleware never writes a body: `Resp` has no body field and the harness checks that none is written.) -/
theorem C11_preflight (dec : Dec) (icfg : ICfg) (dbg : Bool) (r : Req) (pre : HdrMap) (h : r.isPreflight = true) :
    (serveDec dec icfg dbg r pre).status.isSome = true ∧ (serveDec dec icfg dbg r pre).next = false := by
  obtain ⟨o, a, _, _, e⟩ := serveDec_preflight h
  rw [e]
  exact ⟨handleCORSPreflight_status dec icfg pre r.hdrs o a dbg, handleCORSPreflight_next dec icfg pre r.hdrs o a dbg⟩

/-- The names the middleware may touch on a non-preflight response. -/
def touchable : List Bytes := [Facts.headers_Vary, Facts.headers_ACAO, Facts.headers_ACAC, Facts.headers_ACEH]

/-- **C11 (frame).** On a request that is not a preflight the middleware writes no status, leaves
every response header other than Vary / Access-Control-Allow-Origin / -Allow-Credentials /
-Expose-Headers exactly as it found it, and only appends to Vary. -/
theorem C11_frame (dec : Dec) (icfg : ICfg) (dbg : Bool) (r : Req) (pre : HdrMap) (h : r.isPreflight = false) :
    (serveDec dec icfg dbg r pre).status = none ∧
    (∀ n, n ∉ touchable → (serveDec dec icfg dbg r pre).hdrs n = pre n) ∧
    keptAsPrefix (pre Facts.headers_Vary) ((serveDec dec icfg dbg r pre).hdrs Facts.headers_Vary) := by
  obtain ⟨a, c, e, hw⟩ := nonPreflightHdrs_eq dec icfg r pre
  refine ⟨?_, fun n hn => ?_, serveDec_vary_kept dec icfg dbg r pre⟩ <;> rw [serveDec_nonpreflight h]
  exact (congrFun hw n).trans (written_other pre _ a c e hn)

/-- **C11 (passthrough).** A passthrough middleware (zero value, or after `Reconfigure(nil)`) is the
identity on all requests. -/
theorem C11_passthrough (dbg : Bool) (r : Req) (pre : HdrMap) :
    Mw.serve { icfg := none, debug := dbg } r pre = { hdrs := pre, status := none, next := true } := rfl

theorem C11_passthrough_reconfigure_nil (ext : Ext) (m : Mw) (r : Req) (pre : HdrMap) :
    (m.reconfigure ext none).2.serve r pre = { hdrs := pre, status := none, next := true } := rfl

/-- The full statement for the model's own decisions. -/
theorem C11 (icfg : ICfg) (dbg : Bool) (r : Req) (pre : HdrMap) :
    (serve icfg dbg r pre).next = !r.isPreflight ∧
    (r.isPreflight = true → (serve icfg dbg r pre).status.isSome = true) ∧
    (r.isPreflight = false → (serve icfg dbg r pre).status = none ∧
      (∀ n, n ∉ touchable → (serve icfg dbg r pre).hdrs n = pre n) ∧
      keptAsPrefix (pre Facts.headers_Vary) ((serve icfg dbg r pre).hdrs Facts.headers_Vary)) :=
  ⟨C11_dispatch _ icfg dbg r pre, fun h => (C11_preflight _ icfg dbg r pre h).1, C11_frame _ icfg dbg r pre⟩

/-- Non-vacuity: a concrete preflight and a concrete non-preflight request. -/
example : (Req.isPreflight { method := OPTIONS, hdrs := fun k =>
    if k == Facts.headers_Origin then some [[1]] else if k == Facts.headers_ACRM then some [[2]] else none }) = true := by decide
example : (Req.isPreflight { method := OPTIONS, hdrs := fun k =>
    if k == Facts.headers_Origin then some [] else if k == Facts.headers_ACRM then some [[2]] else none }) = false := by decide

#print axioms C11_dispatch
#print axioms C11_preflight
#print axioms C11_frame
#print axioms C11_passthrough
#print axioms C11_passthrough_reconfigure_nil
#print axioms C11

/-- **C11 (translated handlers).** `handleNonCORS` and `handleCORSActual`, regenerated from middleware.go on every run, are the model's
(`Translated.handlers_eq`, where the claim is spelt out). -/
theorem C11_handlers_translated (icfg : ICfg) (h : HdrMap) (origin : Bytes) (isOPTIONS : Bool) :
    Gen.GoSrc.handleNonCORS icfg h isOPTIONS = Serve.handleNonCORS icfg h isOPTIONS ∧
    Gen.GoSrc.handleCORSActual icfg h origin [origin] isOPTIONS =
      (Serve.handleCORSActual (Serve.modelDec icfg) icfg h origin isOPTIONS, none) :=
  Translated.handlers_eq icfg h origin isOPTIONS

#print axioms C11_handlers_translated

/-- **C11 (translated preflight handler).** `handleCORSPreflight`, regenerated from middleware.go on every run, is the model's: header map and status
(`Translated.handleCORSPreflight_eq`, where the claim is spelt out). -/
theorem C11_preflight_translated (icfg : ICfg) (h reqHdrs : HdrMap) (origin acrm : Bytes) (debug : Bool) :
    Gen.GoSrc.handleCORSPreflight icfg h reqHdrs origin [origin] acrm [acrm] debug =
      ((Serve.handleCORSPreflight (Serve.modelDec icfg) icfg h reqHdrs origin acrm debug).hdrs,
       (Serve.handleCORSPreflight (Serve.modelDec icfg) icfg h reqHdrs origin acrm debug).status) :=
  Translated.handleCORSPreflight_eq icfg h reqHdrs origin acrm debug

#print axioms C11_preflight_translated

/-- **C11 (translated closure).** The closure returned by `Wrap`, regenerated from middleware.go on every run, is `Serve.serve`
(`Translated.serveClosure_eq`, where the claim is spelt out). -/
theorem C11_closure_translated (icfg : ICfg) (debug : Bool) (r : Req) (pre : HdrMap) :
    Gen.GoSrc.serveClosure icfg debug r pre = Serve.serve icfg debug r pre :=
  Translated.serveClosure_eq icfg debug r pre

#print axioms C11_closure_translated

/-- **C11 (translated handler, whole).** The handler returned by `Wrap` on the model's state, passthrough branch included, regenerated from middleware.go on every
run, is `Mw.serve` (`Translated.serveMw_eq`, where the claim is spelt out). -/
theorem C11_handler_translated (m : Mw) (r : Req) (pre : HdrMap) : Gen.GoSrc.serveMw m r pre = Mw.serve m r pre :=
  Translated.serveMw_eq m r pre

#print axioms C11_handler_translated

end Cors
