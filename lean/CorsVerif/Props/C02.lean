import CorsVerif.Proofs.Translated
import CorsVerif.Proofs.Pipeline
import CorsVerif.Proofs.Verdict
import CorsVerif.Props.C01
import CorsVerif.Proofs.Accepted
/-
  C02 — A Fetch-compliant browser's verdict equals what the configuration means: `Browser.verdict`
  (Spec/Browser.lean: CORS-preflight fetch step 7, PNA, the CORS check — a transcription of the Fetch standard
  that mentions nothing of the implementation), evaluated on the responses of the model of `Wrap`, is
  `Browser.permits`, the documented meaning (`C02`).

  What the theorem cannot carry: that the Go handler answers like the model — the request path of middleware.go,
  regenerated, is the model (`C02_*_translated`); the rest is the tie: `serve` suite (strict comparison of status,
  headers and decisions), `intents` suite (this very verdict computed in Lean on the implementation's responses) —
  and the fidelity of Spec/Browser.lean to the standard (trusted reading).
-/
namespace Cors
open Gen Serve Browser

/-- **C02 (server side, debug off).** A preflight request is answered with the configured ok status exactly when the
four steps — origin, private network, method, request headers — succeed, for every decision oracle.  (The browser
does not occur here: this is the condition `preflight_check` compares its tests with.) -/
theorem C02_preflight_verdict (dec : Dec) (icfg : ICfg) (hwf : icfg.WF) (r : Req) (pre : HdrMap) (o m : Bytes)
    (ho : r.hdrs.first Facts.headers_Origin = some o) (hm : r.hdrs.first Facts.headers_ACRM = some m)
    (hopt : r.method = OPTIONS) :
    (serveDec dec icfg false r pre).status = some (okStatus icfg) ↔
      (originCond dec icfg o && pnaCond icfg r.hdrs && methodCond icfg m && headerCond dec icfg r.hdrs) = true := by
  rw [serveDec_preflight_of hopt ho hm]
  exact preflight_ok_iff dec icfg hwf pre r.hdrs o m

/-- **C02 (debug cannot rescue a failing step).** The first three conditions do not mention the
debug flag; in debug mode the pipeline succeeds under the same origin / PNA / method conditions
and a header condition in which the scan of the lines is replaced by "some discrete list is
configured" (the browser then applies its own membership test to the full list). -/
theorem C02_debug_steps (dec : Dec) (icfg : ICfg) (reqHdrs : HdrMap) (o m : Bytes) :
    (∃ b, preflightSteps dec icfg reqHdrs o m true = .ok b) ↔
      (originCond dec icfg o && pnaCond icfg reqHdrs && methodCond icfg m &&
        (match reqHdrs Facts.headers_ACRH with
          | none => true
          | some _ => icfg.asteriskReqHdrs || !icfg.acah.isEmpty)) = true :=
  steps_ok_iffD dec icfg reqHdrs o m true

/-- **C02.** For every internal configuration with the properties acceptance guarantees
(`ICfg.WF`, `ICfg.ReqHdrsSound`; see `C02_accepted`), either debug mode, and every request intent
of a Fetch-compliant browser — a serialised origin, a method token, CORS-unsafe header names that
are tokens, any credentials mode, private-network target or not — with the
Access-Control-Request-Headers list reaching the server in any tolerated shape (`Tolerated`: split
over field lines, at most one OWS byte around elements, at most 16 empty elements):

the browser's end-to-end verdict — CORS-preflight fetch when one is required, then the CORS check
on the response to the actual request, both transcribed from the Fetch standard in
`Spec/Browser.lean` and evaluated on the responses of the model of `Wrap` — equals
`Browser.permits`, the documented meaning of the configuration. -/
theorem C02 (icfg : ICfg) (hwf : icfg.WF) (hrs : icfg.ReqHdrsSound) (dbg : Bool) (i : Intent) (lines : List Bytes)
    (hO : (Lex.parse i.origin).isSome = true)
    (hM : Headers.isValid (methodN i) = true)
    (hN : ∀ n ∈ i.headerNames, Headers.isValid n = true)
    (hL : unsafeNames i ≠ [] → Tolerated (unsafeNames i) lines) :
    verdict (fun r => Serve.serve icfg dbg r HdrMap.empty) i lines = permits (Serve.modelDec icfg) icfg i := by
  have hact : corsCheck i (Serve.serve icfg dbg (actualRequest i) HdrMap.empty).hdrs =
      (originPermit (Serve.modelDec icfg) icfg i && !icfg.pnaNoCors) :=
    actual_check (Serve.modelDec icfg) icfg dbg i (ne_star_of_parses hO)
  rw [permits_eq, verdict, preflight_check icfg hwf hrs dbg i lines hO hM hN hL, hact]
  cases hnp : needsPreflight i with
  | true =>
    -- in no-cors-only mode the actual request fails, on both sides; otherwise the conjuncts are the same
    cases icfg.pnaNoCors
    · simp only [Bool.not_true, Bool.false_or, Bool.or_false, Bool.not_false, Bool.and_true]
      cases originPermit (Serve.modelDec icfg) icfg i <;> simp
    · simp
  | false =>
    -- no preflight: the method is safelisted, no header name is unsafe, the target is not private
    simp only [needsPreflight, Bool.or_eq_false_iff, Bool.not_eq_false', List.isEmpty_iff] at hnp
    simp [methodPermit, hdrPermit, hnp.1.1, hnp.1.2, hnp.2]

/-- **C02 for accepted configurations**: acceptance gives `ICfg.WF` and `ICfg.ReqHdrsSound` (`accepted_wf`, `accepted_reqHdrs`). -/
theorem C02_accepted (ext : Ext) (cfg : Config) (icfg : ICfg) (acc : newInternalConfig ext cfg = .ok icfg)
    (dbg : Bool) (i : Intent) (lines : List Bytes)
    (hO : (Lex.parse i.origin).isSome = true) (hM : Headers.isValid (methodN i) = true)
    (hN : ∀ n ∈ i.headerNames, Headers.isValid n = true)
    (hL : unsafeNames i ≠ [] → Tolerated (unsafeNames i) lines) :
    verdict (fun r => Serve.serve icfg dbg r HdrMap.empty) i lines = permits (Serve.modelDec icfg) icfg i :=
  C02 icfg (accepted_wf ext cfg icfg acc) (accepted_reqHdrs ext cfg icfg acc) dbg i lines hO hM hN hL

/-- **C02 (debug mode and tolerated alterations are irrelevant).** The verdict is the same with
debug mode on or off, and the same for every tolerated shape of the header list as for the single
line the browser emitted. -/
theorem C02_invariance (icfg : ICfg) (hwf : icfg.WF) (hrs : icfg.ReqHdrsSound) (d1 d2 : Bool) (i : Intent)
    (lines : List Bytes)
    (hO : (Lex.parse i.origin).isSome = true) (hM : Headers.isValid (methodN i) = true)
    (hN : ∀ n ∈ i.headerNames, Headers.isValid n = true)
    (hL : unsafeNames i ≠ [] → Tolerated (unsafeNames i) lines) :
    verdict (fun r => Serve.serve icfg d1 r HdrMap.empty) i lines =
      verdict (fun r => Serve.serve icfg d2 r HdrMap.empty) i [Bytes.join Headers.comma (unsafeNames i)] := by
  rw [C02 icfg hwf hrs d1 i lines hO hM hN hL,
    C02 icfg hwf hrs d2 i _ hO hM hN (fun hne => tolerated_of_valid _ hne (unsafe_valid i hN))]

/-- **C02 with the origin clause spelled out**, for an accepted configuration that does not list `*` and a page whose
origin is a serialised origin: the one origin clause of `permits` is "some listed pattern denotes the origin the text
stands for" (`C01_request`). -/
theorem C02_listed_origin (ext : Ext) (hext : ∀ h info, ext.ip6 h = some info → h.head? ≠ some 42)
    (cfg : Config) (icfg : ICfg) (acc : newInternalConfig ext cfg = .ok icfg)
    (hns : cfg.origins.contains Validate.star = false) (dbg : Bool) (i : Intent) (lines : List Bytes)
    (o : Origin) (ho : Lex.parse i.origin = some o)
    (hM : Headers.isValid (methodN i) = true) (hN : ∀ n ∈ i.headerNames, Headers.isValid n = true)
    (hL : unsafeNames i ≠ [] → Tolerated (unsafeNames i) lines) :
    verdict (fun r => Serve.serve icfg dbg r HdrMap.empty) i lines =
      ((parsedPatterns ext cfg.origins).any (fun p => Spec.denotes p o)
        && (!i.creds || icfg.credentialed) && !icfg.pnaNoCors
        && (safelisted (methodN i) || icfg.allowAnyMethod || icfg.allowedMethods.contains (methodN i))
        && (unsafeNames i).all (fun n =>
              icfg.allowedReqHdrs.contains n
              || (icfg.asteriskReqHdrs && (n != Spec.authorization || icfg.credentialed || icfg.allowAuthorization)))
        && (!i.pna || icfg.pna)) := by
  rw [C02_accepted ext cfg icfg acc dbg i lines (by rw [ho]; rfl) hM hN hL]
  unfold permits
  rw [accepted_tree_isEmpty ext cfg icfg acc, hns, C01_request ext hext cfg icfg acc hns, ho]
  simp

open Spec in
/-- **C02 with the origin clause spelled out.** For an accepted configuration that does not list
`*`, and a page whose origin is a serialised origin with a domain host (`C01_browser_parse`): the
browser's verdict is success iff some listed pattern denotes the page's origin, credentials are
used only if enabled, the method and the header names are allowed, private-network access only if
enabled, and the configuration is not in no-cors-only PNA mode. -/
theorem C02_documented_origin (ext : Ext) (hext : ∀ h info, ext.ip6 h = some info → h.head? ≠ some 42)
    (cfg : Config) (icfg : ICfg) (acc : newInternalConfig ext cfg = .ok icfg)
    (hns : cfg.origins.contains Validate.star = false) (dbg : Bool) (i : Intent) (lines : List Bytes)
    (d : DocPattern) (hd1 : docScheme d.scheme = true) (hd2 : docDomain d.labels = true) (hd3 : docPortOK d.port = true)
    (hd4 : d.wildcard = false) (hd5 : d.port ≠ .any) (hio : i.origin = d.render)
    (hM : Headers.isValid (methodN i) = true) (hN : ∀ n ∈ i.headerNames, Headers.isValid n = true)
    (hL : unsafeNames i ≠ [] → Tolerated (unsafeNames i) lines) :
    verdict (fun r => Serve.serve icfg dbg r HdrMap.empty) i lines =
      ((parsedPatterns ext cfg.origins).any (fun p => Spec.denotes p d.origin)
        && (!i.creds || icfg.credentialed) && !icfg.pnaNoCors
        && (safelisted (methodN i) || icfg.allowAnyMethod || icfg.allowedMethods.contains (methodN i))
        && (unsafeNames i).all (fun n =>
              icfg.allowedReqHdrs.contains n
              || (icfg.asteriskReqHdrs && (n != Spec.authorization || icfg.credentialed || icfg.allowAuthorization)))
        && (!i.pna || icfg.pna)) :=
  C02_listed_origin ext hext cfg icfg acc hns dbg i lines d.origin (hio ▸ C01_browser_parse d hd1 hd2 hd3 hd4 hd5) hM hN hL

def exIntent : Browser.Intent where
  origin := Spec.b "https://a.example"
  method := Spec.b "put"
  headerNames := [Spec.b "X-Foo", Spec.b "Authorization", Spec.b "x-foo"]
  creds := true
  pna := false

example : (Lex.parse exIntent.origin).isSome = true := by
  unfold exIntent; repeat rw [Spec.b_ofList]
  decide
example : Browser.methodN exIntent = Spec.b "PUT" ∧ Headers.isValid (Browser.methodN exIntent) = true := by decide
example : ∀ n ∈ exIntent.headerNames, Headers.isValid n = true := by
  unfold exIntent; repeat rw [Spec.b_ofList]
  decide
example : Browser.unsafeNames exIntent = [Spec.b "authorization", Spec.b "x-foo"] := by
  unfold exIntent; repeat rw [Spec.b_ofList]
  decide
/-- The list as an intermediary may deliver it: two field lines, padding, empty elements. -/
example : Browser.Tolerated (Browser.unsafeNames exIntent) [Spec.b "authorization ,,", Spec.b "\tx-foo"] := by
  unfold exIntent; repeat rw [Spec.b_ofList]
  exact ⟨[Spec.b "authorization", [], [], Spec.b "x-foo"], by repeat rw [Spec.b_ofList]; decide,
    by repeat rw [Spec.b_ofList]; decide, by decide⟩
/-- Two OWS bytes on one side of an element are not tolerated (and the scanner refuses them, C14). -/
example : ¬ Browser.Tolerated (Browser.unsafeNames exIntent) [Spec.b "authorization,  x-foo "] := by
  rintro ⟨ns, h, _⟩
  have : Spec.names (Spec.elements [Spec.b "authorization,  x-foo "]) = none := by
    rw [Spec.b_ofList]; decide
  rw [this] at h
  cases h

#print axioms C02_preflight_verdict
#print axioms C02_debug_steps
#print axioms steps_ok_iff
#print axioms C02
#print axioms C02_accepted
#print axioms C02_invariance
#print axioms C02_documented_origin

/-- **C02 (translated pipeline).** The four steps of the preflight pipeline, regenerated from middleware.go on every run, are the model's
(`Translated.pipeline_eq`, where the claim is spelt out). -/
theorem C02_pipeline_translated (icfg : ICfg) (buf : Serve.Buf) (reqHdrs : HdrMap) (origin acrm : Bytes) (debug : Bool) :
    Gen.GoSrc.processOriginForPreflight icfg buf origin [origin] = GoRt.result buf (Serve.processOriginForPreflight (Serve.modelDec icfg) icfg buf origin) ∧
    Gen.GoSrc.processACRPN icfg buf reqHdrs = GoRt.result buf (Serve.processACRPN icfg buf reqHdrs) ∧
    Gen.GoSrc.processACRM icfg buf acrm [acrm] = GoRt.result buf (Serve.processACRM icfg buf acrm) ∧
    Gen.GoSrc.processACRH icfg buf reqHdrs debug = GoRt.result buf (Serve.processACRH (Serve.modelDec icfg) icfg buf reqHdrs debug) :=
  Translated.pipeline_eq icfg buf reqHdrs origin acrm debug

#print axioms C02_pipeline_translated

/-- **C02 (translated preflight handler).** `handleCORSPreflight`, regenerated from middleware.go on every run, is the model's: header map and status
(`Translated.handleCORSPreflight_eq`, where the claim is spelt out). -/
theorem C02_preflight_translated (icfg : ICfg) (h reqHdrs : HdrMap) (origin acrm : Bytes) (debug : Bool) :
    Gen.GoSrc.handleCORSPreflight icfg h reqHdrs origin [origin] acrm [acrm] debug =
      ((Serve.handleCORSPreflight (Serve.modelDec icfg) icfg h reqHdrs origin acrm debug).hdrs,
       (Serve.handleCORSPreflight (Serve.modelDec icfg) icfg h reqHdrs origin acrm debug).status) :=
  Translated.handleCORSPreflight_eq icfg h reqHdrs origin acrm debug

#print axioms C02_preflight_translated

/-- **C02 (translated closure).** The closure returned by `Wrap`, regenerated from middleware.go on every run, is `Serve.serve`
(`Translated.serveClosure_eq`, where the claim is spelt out). -/
theorem C02_closure_translated (icfg : ICfg) (debug : Bool) (r : Req) (pre : HdrMap) :
    Gen.GoSrc.serveClosure icfg debug r pre = Serve.serve icfg debug r pre :=
  Translated.serveClosure_eq icfg debug r pre

#print axioms C02_closure_translated

end Cors
