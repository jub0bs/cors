import CorsVerif.Spec.Prohibitions
import CorsVerif.Proofs.Translated
import CorsVerif.Proofs.Respell
import CorsVerif.Proofs.NetFacts
import CorsVerif.Proofs.C06Assembly
import CorsVerif.Proofs.Literals
import CorsVerif.Proofs.Twins
/-
  C15 — Config lists are sets: order, duplicates and header-name case are irrelevant.

  Two accepted configurations whose lists mean the same sets (`Twin`, Proofs/Twins.lean) build the *same handler
  function* — same status, same headers, same decision to call the wrapped handler, for every debug setting, request
  and pre-existing header map (`C15_full`).  Configurations that say the same in other words (`Respelt`,
  Proofs/Respell.lean: order, repetition, letter case of header names, spelling of normalisable methods, entries that
  validation drops) are twins and are accepted or rejected together (`C15_respelt`), because a configuration is accepted
  iff its scalars are fine and every entry of every list is clean on its own (`allErrs_nil_iff`).
  The `twins` relational suite (Go against Go) ties the implementation to this: generated twins of
  generated configurations must be accepted alike and answer generated requests identically.
-/
namespace Cors

/-- **C15 (`*` and Authorization).** Same result whichever is listed first, in both credential
modes, also with duplicates and other letter case. -/
theorem C15_star_auth (cred : Bool) :
    Validate.requestHeaders cred [Spec.star, Spec.b "Authorization"] =
      Validate.requestHeaders cred [Spec.b "Authorization", Spec.star] ∧
    Validate.requestHeaders cred [Spec.star, Spec.b "authorization", Spec.b "AUTHORIZATION"] =
      Validate.requestHeaders cred [Spec.b "Authorization", Spec.star, Spec.star] := by
  -- the closed form does not mention `cred`
  unfold Spec.star
  repeat rw [Spec.b_ofList]
  simp only [Folds.requestHeaders_eq]
  exact ⟨by decide, by decide⟩

/-- Two configurations that differ only in the order of the entries of their four lists. -/
structure PermTwin (c1 c2 : Config) : Prop where
  origins : c1.origins.Perm c2.origins
  methods : c1.methods.Perm c2.methods
  requestHeaders : c1.requestHeaders.Perm c2.requestHeaders
  responseHeaders : c1.responseHeaders.Perm c2.responseHeaders
  credentialed : c1.credentialed = c2.credentialed
  maxAge : c1.maxAge = c2.maxAge
  status : c1.status = c2.status
  pna : c1.pna = c2.pna
  pnaNoCors : c1.pnaNoCors = c2.pnaNoCors
  tolInsecure : c1.tolInsecure = c2.tolInsecure
  tolPSL : c1.tolPSL = c2.tolPSL

theorem PermTwin.respelt {c1 c2 : Config} (h : PermTwin c1 c2) : Respelt c1 c2 :=
  .of_same_members h.credentialed h.maxAge h.status h.pna h.pnaNoCors h.tolInsecure h.tolPSL (fun _ => h.origins.mem_iff)
    (fun _ => h.methods.mem_iff) (fun _ => h.requestHeaders.mem_iff) (fun _ => h.responseHeaders.mem_iff)

/-- **C15 (violations).** The violations of a permuted configuration are a permutation of the
violations of the original. -/
theorem C15_errors_perm (ext : Ext) {c1 c2 : Config} (h : PermTwin c1 c2) :
    (Spec.prohibitions ext c1).Perm (Spec.prohibitions ext c2) := by
  have hf : Spec.originViolations ext c1 = Spec.originViolations ext c2 := by
    funext raw
    unfold Spec.originViolations
    rw [h.credentialed, h.pna, h.pnaNoCors, h.tolInsecure, h.tolPSL]
  unfold Spec.prohibitions Spec.pnaViolations Spec.originsViolations
  rw [h.status, h.maxAge, h.pna, h.pnaNoCors, h.credentialed, h.origins.isEmpty_eq, hf]
  -- one `append` per summand of `Spec.prohibitions`, in its order
  refine ((((((List.Perm.refl _).append (.refl _)).append ?_).append (h.methods.flatMap_right _)).append
    (h.requestHeaders.flatMap_right _)).append (.refl _)).append (h.responseHeaders.flatMap_right _)
  split
  · exact .refl _
  · exact h.origins.flatMap_right _

open C06A TreeRT in
theorem treeEquiv_of_origins (ext : Ext)
    {c1 c2 : Config} (h : ∀ raw, raw ∈ c1.origins ↔ raw ∈ c2.origins) (i1 i2 : ICfg)
    (a1 : newInternalConfig ext c1 = .ok i1) (a2 : newInternalConfig ext c2 = .ok i2) : TreeEquiv i1.tree i2.tree := by
  have hstar := contains_congr h Validate.star
  refine ⟨by rw [accepted_tree_isEmpty ext c1 i1 a1, accepted_tree_isEmpty ext c2 i2 a2, hstar], fun o ho => ?_⟩
  obtain ⟨_, rfl⟩ := (accepted_iff ext c1 i1).mp a1
  obtain ⟨_, rfl⟩ := (accepted_iff ext c2 i2).mp a2
  rw [accepted_tree, accepted_tree, hstar]
  split
  · rfl
  · exact fold_insert_members (fun _ => parsed_port) (parsedPatterns_congr ext h) _ Node.Inv_empty o ho

open C06A in
theorem Twin.sameBut (ext : Ext)
    {c1 c2 : Config} (h : Twin c1 c2) (i1 i2 : ICfg)
    (a1 : newInternalConfig ext c1 = .ok i1) (a2 : newInternalConfig ext c2 = .ok i2) : SameBut i1 i2 := by
  have htree := treeEquiv_of_origins ext h.origins i1 i2 a1 a2
  obtain ⟨_, rfl⟩ := (accepted_iff ext c1 i1).mp a1
  obtain ⟨_, rfl⟩ := (accepted_iff ext c2 i2).mp a2
  have hm := methods_twin h.methodsStar h.methods
  have hq : (Validate.requestHeaders c1.credentialed c1.requestHeaders).2 = (Validate.requestHeaders c2.credentialed c2.requestHeaders).2 := by
    rw [← h.credentialed]; exact requestHeaders_twin c1.credentialed h.reqStar h.reqAuth h.req
  have hr : (Validate.responseHeaders c1.credentialed c1.responseHeaders).2 = (Validate.responseHeaders c2.credentialed c2.responseHeaders).2 := by
    rw [← h.credentialed]; exact responseHeaders_twin c1.credentialed h.resStar h.res
  exact {
    tree := htree
    allowedMethods := congrArg (·.2) hm
    allowedReqHdrs := congrArg (·.2.2.1) hq
    acah := congrArg (·.2.2.2) hq
    statusMinus200 := by unfold Validate.build; rw [h.status]
    credentialed := h.credentialed
    allowAnyMethod := congrArg (·.1) hm
    asteriskReqHdrs := congrArg (·.1) hq
    allowAuthorization := Or.inr (congrArg (·.2.1) hq)
    pna := h.pna
    pnaNoCors := h.pnaNoCors
    acma := by unfold Validate.build; rw [h.maxAge]
    aceh := hr
    subsOfPublicSuffixes := h.tolPSL
    insecureOrigins := h.tolInsecure }

/-- **C15 (twins answer identically).** Two accepted configurations whose lists mean the same
sets (`Twin`) produce handlers that are the same function: for every debug setting, every request and every
pre-existing response header map, the same status, the same header map and the same decision to call the
wrapped handler.

The hypothesis on `ext` is the one of `C01_parsed`: the IPv6 oracle accepts no literal starting
with `*` (netip.ParseAddr does not).  The proof does not use it: `Twin.sameBut` holds for every oracle
(that the trees accept the same origins needs only the port bound of parsed patterns). -/
theorem C15_full (ext : Ext) (hext : ∀ h info, ext.ip6 h = some info → h.head? ≠ some 42)
    {c1 c2 : Config} (h : Twin c1 c2) (i1 i2 : ICfg)
    (a1 : newInternalConfig ext c1 = .ok i1) (a2 : newInternalConfig ext c2 = .ok i2) :
    Serve.serve i1 = Serve.serve i2 :=
  C06A.serve_congr (h.sameBut ext i1 i2 a1 a2)

/-- Corollary for the plainest twins: permuted lists. -/
theorem C15_perm (ext : Ext) (hext : ∀ h info, ext.ip6 h = some info → h.head? ≠ some 42)
    {c1 c2 : Config} (h : PermTwin c1 c2) (i1 i2 : ICfg)
    (a1 : newInternalConfig ext c1 = .ok i1) (a2 : newInternalConfig ext c2 = .ok i2) :
    Serve.serve i1 = Serve.serve i2 :=
  C15_full ext hext h.respelt.twin i1 i2 a1 a2

/-! ### Re-spelt configurations: accepted together, and then the same handler -/

theorem accept_of_respelt (ext : Ext) {c1 c2 : Config} (h : Respelt c1 c2)
    (h1 : Validate.allErrs ext c1 = []) : Validate.allErrs ext c2 = [] := by
  rw [allErrs_nil_iff] at h1 ⊢
  obtain ⟨a, b, c, d, e, f, g, k⟩ := h1
  have e0 : Validate.statusErrs c2 = Validate.statusErrs c1 := by unfold Validate.statusErrs; rw [h.status]
  have e1 : Validate.pnaErrs c2 = Validate.pnaErrs c1 := by unfold Validate.pnaErrs; rw [h.pna, h.pnaNoCors]
  have e2 : Validate.maxAgeErrs c2 = Validate.maxAgeErrs c1 := by unfold Validate.maxAgeErrs; rw [h.maxAge]
  have e3 : Validate.pnaAny c2 = Validate.pnaAny c1 := by unfold Validate.pnaAny; rw [h.pna, h.pnaNoCors]
  refine ⟨e0 ▸ a, e1 ▸ b, e2 ▸ c, ?_, ?_, ?_, ?_, ?_⟩
  · obtain ⟨x, hx⟩ := List.exists_mem_of_ne_nil _ d
    exact List.ne_nil_of_mem ((h.origins x).mp hx)
  · intro raw hraw
    rw [e3, ← h.credentialed, ← h.tolInsecure, ← h.tolPSL]
    exact e raw ((h.origins raw).mpr hraw)
  · intro n hn
    rcases h.methods21 n hn with ⟨n', hn', hr⟩ | hd
    · exact hr.methodErr_nil.mpr (f n' hn')
    · exact hd.clean
  · intro n hn
    obtain ⟨n', hn', hr⟩ := h.req21 n hn
    exact hr.reqHdrErr_nil.mpr (g n' hn')
  · intro n hn
    rcases h.res21 n hn with ⟨n', hn', hr⟩ | hd
    · rw [← h.credentialed]
      exact (hr.resHdrErr_nil _).mpr (k n' hn')
    · exact hd.clean _

/-- **C15 (acceptance of re-spelt configurations).** Configurations that differ only in order,
repetition, the letter case of header names, the spelling of normalisable methods and in listing
safelisted methods / response-header names are accepted or rejected together. -/
theorem C15_accept_respelt (ext : Ext) {c1 c2 : Config} (h : Respelt c1 c2) :
    (∃ i1, newInternalConfig ext c1 = .ok i1) ↔ (∃ i2, newInternalConfig ext c2 = .ok i2) := by
  rw [exists_accepted_iff, exists_accepted_iff]
  exact ⟨accept_of_respelt ext h, accept_of_respelt ext h.symm⟩

/-- **C15 (acceptance, same members).** Two configurations with equal scalars whose lists have the same
members — whatever the order and the multiplicities — are accepted or rejected together. -/
theorem C15_accept_members (ext : Ext) (c1 c2 : Config)
    (hc : c1.credentialed = c2.credentialed) (hm : c1.maxAge = c2.maxAge) (hs : c1.status = c2.status)
    (hp : c1.pna = c2.pna) (hn : c1.pnaNoCors = c2.pnaNoCors) (hi : c1.tolInsecure = c2.tolInsecure)
    (hl : c1.tolPSL = c2.tolPSL)
    (ho : ∀ x, x ∈ c1.origins ↔ x ∈ c2.origins) (hme : ∀ x, x ∈ c1.methods ↔ x ∈ c2.methods)
    (hrq : ∀ x, x ∈ c1.requestHeaders ↔ x ∈ c2.requestHeaders)
    (hrs : ∀ x, x ∈ c1.responseHeaders ↔ x ∈ c2.responseHeaders) :
    (∃ i1, newInternalConfig ext c1 = .ok i1) ↔ (∃ i2, newInternalConfig ext c2 = .ok i2) :=
  C15_accept_respelt ext (Respelt.of_same_members hc hm hs hp hn hi hl ho hme hrq hrs)

/-- **C15 (acceptance).** Reordering list entries never turns an accepted configuration into a
rejected one or vice versa. -/
theorem C15_accept_perm (ext : Ext) {c1 c2 : Config} (h : PermTwin c1 c2) :
    (∃ i1, newInternalConfig ext c1 = .ok i1) ↔ (∃ i2, newInternalConfig ext c2 = .ok i2) :=
  C15_accept_respelt ext h.respelt

/-- **C15, closed form.** If `c1` is accepted and `c2` says the same in other words (`Respelt`), then
`c2` is accepted as well and the two handlers are the same function. No hypothesis about `c2`'s
acceptance is left. -/
theorem C15_respelt (ext : Ext) (hext : ∀ h info, ext.ip6 h = some info → h.head? ≠ some 42)
    {c1 c2 : Config} (h : Respelt c1 c2) (i1 : ICfg) (a1 : newInternalConfig ext c1 = .ok i1) :
    ∃ i2, newInternalConfig ext c2 = .ok i2 ∧ Serve.serve i1 = Serve.serve i2 := by
  obtain ⟨i2, a2⟩ := (C15_accept_respelt ext h).mp ⟨i1, a1⟩
  exact ⟨i2, a2, C15_full ext hext h.twin i1 i2 a1 a2⟩

/-- `C15_respelt` for library answers of the driver's form (`Net.std`; `Codec.extOf` is such an `Ext`): no hypothesis is left. -/
theorem C15_respelt_std (idna etld : Bytes → Bool) {c1 c2 : Config} (h : Respelt c1 c2) (i1 : ICfg)
    (a1 : newInternalConfig (Net.std idna etld) c1 = .ok i1) :
    ∃ i2, newInternalConfig (Net.std idna etld) c2 = .ok i2 ∧ Serve.serve i1 = Serve.serve i2 :=
  C15_respelt (Net.std idna etld) Net.ip6_no_star h i1 a1

/-! ### Non-vacuity: a concrete pair of accepted twins that differ in order, multiplicity, letter
case, method spelling and dropped entries -/

theorem mem_iff_of_subsets {A B : List Bytes} (h : (A.all B.contains && B.all A.contains) = true) (x : Bytes) : x ∈ A ↔ x ∈ B := by
  simp only [Bool.and_eq_true, List.all_eq_true, List.contains_iff_mem] at h
  exact ⟨h.1 x, h.2 x⟩

def extTw : Ext := { idnaXn := fun _ => true, isETLD := fun _ => false, ip6 := fun _ => none }
def tw1 : Config where
  origins := [Spec.b "https://a.com", Spec.b "https://*.b.com:8080"]
  methods := [Spec.b "PUT", Spec.b "delete"]
  requestHeaders := [Spec.b "X-Foo", Spec.b "Authorization"]
  responseHeaders := [Spec.b "X-Bar"]
  credentialed := true
def tw2 : Config where
  origins := [Spec.b "https://*.b.com:8080", Spec.b "https://a.com", Spec.b "https://a.com"]
  methods := [Spec.b "DELETE", Spec.b "PUT", Spec.b "GET"]
  requestHeaders := [Spec.b "authorization", Spec.b "x-foo", Spec.b "X-FOO"]
  responseHeaders := [Spec.b "x-bar", Spec.b "X-Bar", Spec.b "Cache-Control"]
  credentialed := true

theorem tw_respelt : Respelt tw1 tw2 := by
  unfold tw1 tw2; repeat rw [Spec.b_ofList]
  exact {
    credentialed := rfl
    maxAge := rfl
    status := rfl
    pna := rfl
    pnaNoCors := rfl
    tolInsecure := rfl
    tolPSL := rfl
    origins := mem_iff_of_subsets (by decide)
    methods12 := by decide
    methods21 := by decide
    req12 := by decide
    req21 := by decide
    res12 := by decide
    res21 := by decide
  }
/-- Entry by entry (`allErrs_nil_iff`), and with the name tables as lists: looked up in a set built by `NewSet`, each
test would have the evaluator sort the table again. -/
theorem tw1_accepted : ∃ i, newInternalConfig extTw tw1 = .ok i := by
  rw [exists_accepted_iff, allErrs_nil_iff]
  unfold tw1; repeat rw [Spec.b_ofList]
  unfold Folds.methodErr Folds.reqHdrErr Folds.resHdrErr Headers.isForbiddenRequestHeaderName Headers.isProhibitedRequestHeaderName
    Headers.isForbiddenResponseHeaderName Headers.isProhibitedResponseHeaderName Methods.isSafelisted Methods.isForbidden Methods.normalize
  simp only [SortedSet.ofList_contains]
  decide

example : Twin tw1 tw2 := tw_respelt.twin
example : Respelt tw1 tw2 := tw_respelt
example : ∃ i, newInternalConfig extTw tw1 = .ok i := tw1_accepted
example : ∃ i, newInternalConfig extTw tw2 = .ok i := (C15_accept_respelt extTw tw_respelt).mp tw1_accepted
example : ∀ h info, extTw.ip6 h = some info → h.head? ≠ some 42 := fun _ _ h => by cases h

#print axioms C15_star_auth
#print axioms C15_errors_perm
#print axioms C15_accept_perm
#print axioms C15_full
#print axioms C15_perm
#print axioms allErrs_nil_iff
#print axioms C15_accept_members
#print axioms C15_accept_respelt
#print axioms C15_respelt
#print axioms C15_respelt_std

/-- **C15 (translated loop bodies).** The loop bodies of `validateMethods`, `validateRequestHeaders` and `validateResponseHeaders`, regenerated from config.go on
every run, are the model's step functions, hence the loops its folds (`Translated.loops_eq`, where the claim is spelt out). -/
theorem C15_loops_translated (credentialed : Bool) (names : List Bytes) :
    names.foldl Gen.GoSrc.methodStep {} = names.foldl Validate.methodStep {} ∧
    names.foldl (Gen.GoSrc.reqHdrStep credentialed) {} = names.foldl (Validate.reqHdrStep credentialed) {} ∧
    names.foldl (Gen.GoSrc.resHdrStep credentialed) {} = names.foldl (Validate.resHdrStep credentialed) {} :=
  Translated.loops_eq credentialed names

#print axioms C15_loops_translated

/-- **C15 (translated origin loop).** The loop body of `validateOrigins`, regenerated from config.go on every run, is `Validate.originStep`, hence the loop is the
model's fold (`Translated.originLoop_eq`, where the claim is spelt out). -/
theorem C15_originLoop_translated (ext : Ext) (credentialed pnaAny tolInsecure tolPSL : Bool) (patterns : List Bytes) :
    patterns.foldl (Gen.GoSrc.originStep ext credentialed pnaAny tolInsecure tolPSL) {} =
      patterns.foldl (Validate.originStep ext credentialed pnaAny tolInsecure tolPSL) {} :=
  Translated.originLoop_eq ext credentialed pnaAny tolInsecure tolPSL patterns

#print axioms C15_originLoop_translated

end Cors
