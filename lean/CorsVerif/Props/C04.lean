import CorsVerif.Props.C05
import CorsVerif.Proofs.Translated
/-
  C04 — No insecure or out-of-range configuration is ever accepted.

  Whenever validation accepts a Config, the Config violates none of the documented
  prohibitions (`Spec.prohibitions`, written field by field from the documentation); and an
  error always comes with a nil middleware.
-/
namespace Cors
open Gen

/-- **C04.** Acceptance implies that there is no violation at all. -/
theorem C04 (ext : Ext) (cfg : Config) (icfg : ICfg) (h : newInternalConfig ext cfg = .ok icfg) :
    Spec.prohibitions ext cfg = [] := C05_reject ext cfg icfg h

/-- **C04 (nil middleware).** When validation reports an error, `NewMiddleware` returns that error and no middleware. -/
theorem C04_nil (ext : Ext) (cfg : Config) (e : Err) (h : newInternalConfig ext cfg = .error e) :
    Mw.new ext cfg = .error e := by
  simp [Mw.new, h]

/-- Consequences, clause by clause in the words of the property; the clauses about the entries of the four lists
stay in terms of the specification's `…Violations`. -/
theorem C04_clauses (ext : Ext) (cfg : Config) (icfg : ICfg) (h : newInternalConfig ext cfg = .ok icfg) :
    cfg.origins ≠ [] ∧
    (Spec.star ∈ cfg.origins → cfg.credentialed = false ∧ cfg.pna = false ∧ cfg.pnaNoCors = false) ∧
    (cfg.pna && cfg.pnaNoCors) = false ∧
    (-1 ≤ cfg.maxAge ∧ cfg.maxAge ≤ 86400) ∧
    (cfg.status = 0 ∨ (200 ≤ cfg.status ∧ cfg.status ≤ 299)) ∧
    (∀ m ∈ cfg.methods, Spec.methodViolations m = []) ∧
    (∀ n ∈ cfg.requestHeaders, Spec.requestHeaderViolations n = []) ∧
    (∀ n ∈ cfg.responseHeaders, Spec.responseHeaderViolations cfg.credentialed n = []) ∧
    (∀ o ∈ cfg.origins, Spec.originViolations ext cfg o = []) := by
  have hp := C04 ext cfg icfg h
  unfold Spec.prohibitions at hp
  simp only [List.append_eq_nil_iff, List.flatMap_eq_nil_iff] at hp
  -- in the order of the summands of `Spec.prohibitions`
  obtain ⟨⟨⟨⟨⟨⟨hs, hpna⟩, ho⟩, hm⟩, hr⟩, ha⟩, he⟩ := hp
  -- each field's violations are `if ok then [] else [e]`: empty exactly when the field is in order
  have hne : cfg.origins ≠ [] := fun h0 => by simp [Spec.originsViolations, h0] at ho
  have hoAll : ∀ o ∈ cfg.origins, Spec.originViolations ext cfg o = [] := by
    simpa [Spec.originsViolations, hne] using ho
  refine ⟨hne, fun hstar => ?_, ?_, ?_, ?_, hm, hr, he, hoAll⟩
  · simpa [Spec.originViolations, and_assoc] using hoAll _ hstar
  · simpa [Spec.pnaViolations] using hpna
  · simpa [Spec.maxAgeViolations] using ha
  · exact Decidable.or_iff_not_imp_left.mpr (by simpa [Spec.statusViolations] using hs)

/-! ### The ASCII precondition of the case-mapping calls

`util.ByteLowercase` / `util.ByteUppercase` are `strings.ToLower` / `strings.ToUpper`, which map *Unicode* letters
(U+017F `ſ` ↦ `S`, U+0131 `ı` ↦ `I`, U+212A ↦ `k`, U+0130 ↦ `i`); the model (`Bytes.lower`, `Bytes.upper`,
`Methods.normalize`) is the ASCII byte map.  The two agree exactly on ASCII input.  The list below (regenerated from
the source on every run) holds every call of such a function in the non-test code with the conditions that
syntactically dominate it, or its constant argument.  Audit, site by site:

  * `validateMethods|methods.Normalize(name)` and `…|methods.IsForbidden(name)` — after `!(!methods.IsValid(name))`: a valid
    method is a token, tokens are ASCII (`C04_valid_ascii`);
  * `validateRequestHeaders|util.ByteLowercase(name)`, `validateResponseHeaders|util.ByteLowercase(name)` — after
    `!(!headers.IsValid(name))`: a valid header name is a token;
  * `headers.|util.ByteLowercase(<const>)` — package-level tables built from constants, all ASCII (`C04_caseMap_consts_ascii`);
  * `methods.IsForbidden|util.ByteUppercase(name)`, `methods.Normalize|util.ByteUppercase(method)`,
    `util.ByteLowercase|strings.ToLower(str)`, `util.ByteUppercase|strings.ToUpper(str)` — the wrappers themselves; their
    callers are the sites above (no call from the request path: a method or header name taken from a request is never case-mapped).

A new call site (say, on request data), a validity test dropped or moved below the call, break the obligation. -/

def auditedCaseMapSites : List Bytes := [
  Spec.b "cors.validateMethods|methods.IsForbidden(name)|!(len(names) == 0) ; _ := range names ; !(name == headers.ValueWildcard) ; !(!methods.IsValid(name)) ; !(methods.IsSafelisted(name))",
  Spec.b "cors.validateMethods|methods.Normalize(name)|!(len(names) == 0) ; _ := range names ; !(name == headers.ValueWildcard) ; !(!methods.IsValid(name))",
  Spec.b "cors.validateRequestHeaders|util.ByteLowercase(name)|!(len(names) == 0) ; _ := range names ; !(name == headers.ValueWildcard) ; !(!headers.IsValid(name))",
  Spec.b "cors.validateResponseHeaders|util.ByteLowercase(name)|!(len(names) == 0) ; _ := range names ; !(name == headers.ValueWildcard) ; !(!headers.IsValid(name))",
  Spec.b "headers.|util.ByteLowercase(ACAC)|const=Access-Control-Allow-Credentials",
  Spec.b "headers.|util.ByteLowercase(ACAH)|const=Access-Control-Allow-Headers",
  Spec.b "headers.|util.ByteLowercase(ACAH)|const=Access-Control-Allow-Headers",
  Spec.b "headers.|util.ByteLowercase(ACAM)|const=Access-Control-Allow-Methods",
  Spec.b "headers.|util.ByteLowercase(ACAM)|const=Access-Control-Allow-Methods",
  Spec.b "headers.|util.ByteLowercase(ACAO)|const=Access-Control-Allow-Origin",
  Spec.b "headers.|util.ByteLowercase(ACAPN)|const=Access-Control-Allow-Private-Network",
  Spec.b "headers.|util.ByteLowercase(ACAPN)|const=Access-Control-Allow-Private-Network",
  Spec.b "headers.|util.ByteLowercase(ACEH)|const=Access-Control-Expose-Headers",
  Spec.b "headers.|util.ByteLowercase(ACMA)|const=Access-Control-Max-Age",
  Spec.b "headers.|util.ByteLowercase(ACMA)|const=Access-Control-Max-Age",
  Spec.b "headers.|util.ByteLowercase(ACRH)|const=Access-Control-Request-Headers",
  Spec.b "headers.|util.ByteLowercase(ACRH)|const=Access-Control-Request-Headers",
  Spec.b "headers.|util.ByteLowercase(ACRM)|const=Access-Control-Request-Method",
  Spec.b "headers.|util.ByteLowercase(ACRM)|const=Access-Control-Request-Method",
  Spec.b "headers.|util.ByteLowercase(ACRPN)|const=Access-Control-Request-Private-Network",
  Spec.b "headers.|util.ByteLowercase(ACRPN)|const=Access-Control-Request-Private-Network",
  Spec.b "headers.|util.ByteLowercase(Origin)|const=Origin",
  Spec.b "headers.|util.ByteLowercase(Origin)|const=Origin",
  Spec.b "methods.IsForbidden|util.ByteUppercase(name)|",
  Spec.b "methods.Normalize|util.ByteUppercase(method)|",
  Spec.b "util.ByteLowercase|strings.ToLower(str)|",
  Spec.b "util.ByteUppercase|strings.ToUpper(str)|"
]

/-- **C04 (case-mapping sites).** The code case-maps exactly at the audited sites, each under exactly the audited
dominating conditions. -/
theorem C04_caseMap_sites : Facts.cors_caseMapSites = auditedCaseMapSites :=
  Spec.Spelt.eq_of (by repeat constructor) (by decide +kernel)

/-- The constant arguments of the case-mapping calls are ASCII. -/
theorem C04_caseMap_consts_ascii : ∀ s ∈ Facts.cors_caseMapConstArgs, ∀ b ∈ s, b < 128 := by decide +kernel

/-- A name that passes the validity test (`httpguts.ValidHeaderFieldName`, `methods.IsValid`: non-empty, token bytes
only) is ASCII: on it the Unicode-aware library functions and the model's byte maps coincide. -/
theorem C04_valid_ascii (name : Bytes) (h : Headers.isValid name = true) : ∀ b ∈ name, b < 128 :=
  fun b hb => Headers.tchar_lt (Headers.valid_tchar h b hb)

#print axioms C04_caseMap_sites
#print axioms C04_caseMap_consts_ascii
#print axioms C04_valid_ascii

#print axioms C04
#print axioms C04_nil
#print axioms C04_clauses

/-- **C04 (translated validators).** `validatePreflightStatus` and `validateMaxAge`, regenerated from config.go on every run, are `Validate.status` and
`Validate.maxAge` for every integer (`Translated.validatePreflightStatus_eq`, where the claim is spelt out, and `validateMaxAge_eq`). -/
theorem C04_validators_translated (x : Int) :
    Gen.GoSrc.validatePreflightStatus x = (match Validate.status x with | .ok v => (none, v) | .error e => (some e, 0)) ∧
    Gen.GoSrc.validateMaxAge x = (match Validate.maxAge x with | .ok v => (none, v) | .error e => (some e, [])) :=
  ⟨Translated.validatePreflightStatus_eq x, Translated.validateMaxAge_eq x⟩

#print axioms C04_validators_translated

/-- **C04 (translated loop bodies).** The loop bodies of `validateMethods`, `validateRequestHeaders` and `validateResponseHeaders`, regenerated from config.go on
every run, are the model's step functions, hence the loops its folds (`Translated.loops_eq`, where the claim is spelt out). -/
theorem C04_loops_translated (credentialed : Bool) (names : List Bytes) :
    names.foldl Gen.GoSrc.methodStep {} = names.foldl Validate.methodStep {} ∧
    names.foldl (Gen.GoSrc.reqHdrStep credentialed) {} = names.foldl (Validate.reqHdrStep credentialed) {} ∧
    names.foldl (Gen.GoSrc.resHdrStep credentialed) {} = names.foldl (Validate.resHdrStep credentialed) {} :=
  Translated.loops_eq credentialed names

#print axioms C04_loops_translated

/-- **C04 (translated origin loop).** The loop body of `validateOrigins`, regenerated from config.go on every run, is `Validate.originStep`, hence the loop is the
model's fold (`Translated.originLoop_eq`, where the claim is spelt out). -/
theorem C04_originLoop_translated (ext : Ext) (credentialed pnaAny tolInsecure tolPSL : Bool) (patterns : List Bytes) :
    patterns.foldl (Gen.GoSrc.originStep ext credentialed pnaAny tolInsecure tolPSL) {} =
      patterns.foldl (Validate.originStep ext credentialed pnaAny tolInsecure tolPSL) {} :=
  Translated.originLoop_eq ext credentialed pnaAny tolInsecure tolPSL patterns

#print axioms C04_originLoop_translated

end Cors
