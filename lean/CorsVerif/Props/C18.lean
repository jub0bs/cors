import CorsVerif.Spec.Fetch
import CorsVerif.Model.Serve
import CorsVerif.Proofs.Literals
/-
  C18 — Per-request allocations do not grow with attacker-controlled sizes.  (PARTIAL)

  Whether Go code allocates is decided by the compiler's escape analysis and the runtime; no
  executable model can exhibit that.  What the model can carry is a *cost semantics*: the number
  of allocating header primitives (`Header.Add`, `Header.Set`, `append` to the Vary slice) the
  handler executes.  In the model every scanner (origin lexer, tree lookup, ACRH check, `First`)
  returns sub-views of its input and is cost-free by construction, so the count cannot depend on
  any size.  Three obligations are regenerated from the source on every run:
    * no allocating construct (append / make / new / string concatenation / []byte or string
      conversion / composite or function literal) occurs lexically inside a `for` loop of any
      function on the request path;
    * every call inside such a loop is to a function of a fixed allow-list of non-allocating
      helpers (each of which is itself in the scanned set, or a slice/strings primitive);
    * what the preflight path puts into a header map is a sub-view or a pre-built value.
  The decisive tie is measurement (`allocs` suite: testing.AllocsPerRun per family of requests at
  sizes 1 B … 1 MiB / 1 … 100 000 elements; the count must not grow and must stay ≤ 8).
  Three constants: the model's count of primitives is at most 3, attained (`Cost.serve_le`); `C18_bound`
  states it with `Cost.K = 4`; 8 is the harness's bound on the heap allocations measured around
  `ServeHTTP`, another unit.
-/
namespace Cors
open Gen Serve Spec

namespace Cost

def handleNonCORS (icfg : ICfg) (isOPTIONS : Bool) : Nat :=
  (if isOPTIONS then 1 else 0) +
  (if icfg.pnaNoCors then 0
   else if !icfg.tree.isEmpty then (if !isOPTIONS then 1 else 0)
   else 1 + (if !icfg.aceh.isEmpty then 1 else 0))

def handleCORSActual (dec : Dec) (icfg : ICfg) (origin : Bytes) (isOPTIONS : Bool) : Nat :=
  if icfg.pnaNoCors then (if isOPTIONS then 1 else 0)
  else
    (if isOPTIONS then 1 else if !icfg.tree.isEmpty then 1 else 0) +
    (if !icfg.credentialed && icfg.tree.isEmpty then 1 + (if !icfg.aceh.isEmpty then 1 else 0)
     else if !dec.allowed origin then 0
     else (if icfg.credentialed then 1 else 0) + (if !icfg.aceh.isEmpty then 1 else 0))

/-- Allocating primitives executed by `handleCORSPreflight`: at most the `append` on the slow
Vary path; every other install is a pre-built singleton, a request slice or a configuration slice. -/
def handleCORSPreflight (pre : HdrMap) : Nat := match pre Facts.headers_Vary with
  | none => 0
  | some _ => 1

def serve (dec : Dec) (icfg : ICfg) (r : Req) (pre : HdrMap) : Nat :=
  let isOPTIONS := r.method == OPTIONS
  match r.hdrs.first Facts.headers_Origin with
  | none => handleNonCORS icfg isOPTIONS
  | some origin =>
    match r.hdrs.first Facts.headers_ACRM with
    | some _ => if isOPTIONS then handleCORSPreflight pre else handleCORSActual dec icfg origin isOPTIONS
    | none => handleCORSActual dec icfg origin isOPTIONS

def K : Nat := 4

end Cost

theorem ite_le {c : Prop} [Decidable c] {a b k : Nat} (ha : a ≤ k) (hb : b ≤ k) : (if c then a else b) ≤ k := by
  split <;> assumption

theorem flag_le (c : Prop) [Decidable c] : (if c then 1 else 0) ≤ 1 := ite_le (Nat.le_refl 1) (Nat.zero_le 1)

/-- Sharp: an `OPTIONS` request without `Origin` to an allow-all configuration that exposes headers costs 3. -/
theorem Cost.serve_le (dec : Dec) (icfg : ICfg) (r : Req) (pre : HdrMap) : Cost.serve dec icfg r pre ≤ 3 := by
  -- a conditional costs at most its dearer branch, a flag at most 1; both handlers come to 1 + 2
  have hN : ∀ b, Cost.handleNonCORS icfg b ≤ 1 + 2 := fun b =>
    Nat.add_le_add (flag_le _)
      (ite_le (Nat.zero_le 2) (ite_le (Nat.le_succ_of_le (flag_le _)) (Nat.add_le_add_left (flag_le _) 1)))
  have hA : ∀ o b, Cost.handleCORSActual dec icfg o b ≤ 1 + 2 := fun o b =>
    ite_le (Nat.le_trans (flag_le _) (by decide))
      (Nat.add_le_add (ite_le (Nat.le_refl 1) (flag_le _))
        (ite_le (Nat.add_le_add_left (flag_le _) 1) (ite_le (Nat.zero_le 2) (Nat.add_le_add (flag_le _) (flag_le _)))))
  have hP : Cost.handleCORSPreflight pre ≤ 3 := by
    unfold Cost.handleCORSPreflight
    split <;> decide
  unfold Cost.serve
  split
  · exact hN _
  · split
    · exact ite_le hP (hA _ _)
    · exact hA _ _

/-- **C18 (cost model).** Whatever the configuration and the request — any lengths, any number of
field lines or list elements — the handler executes at most `K = 4` allocating primitives (at most 3:
`Cost.serve_le`). -/
theorem C18_bound (dec : Dec) (icfg : ICfg) (r : Req) (pre : HdrMap) : Cost.serve dec icfg r pre ≤ Cost.K :=
  Nat.le_trans (Cost.serve_le dec icfg r pre) (by decide)

/-- Callees allowed inside loops on the request path: the scanners themselves and slice/string
primitives, none of which allocates. -/
def loopCalleeAllowlist : List Bytes :=
  [b "TrimOWS", b "cutAtComma", b "set.IndexAfter", b "isOWS", b "len", b "lastByte", b "n.contains",
   b "slices.BinarySearch", b "splitAtCommonSuffix", b "isASCIILabelByte", b "isDigit", b "intFromDigit",
   b "isSubsequentSchemeByte", b "min", b "strings.IndexByte"]

/-- **C18 (loops, regenerated).** No allocating construct inside a loop of the request path … -/
theorem C18_no_alloc_in_loops :
    Facts.cors_requestPathLoops.all (fun row => row[1]? != some (b "alloc")) = true := by decide

/-- … and every call inside such a loop goes to the allow-list. -/
theorem C18_loop_callees :
    Facts.cors_requestPathLoops.all (fun row => row[1]? != some (b "call") ||
      (match row[2]? with | some c => loopCalleeAllowlist.contains c | none => false)) = true := by
  unfold loopCalleeAllowlist; repeat rw [b_ofList]
  decide

/-- The installs of the preflight path are sub-views or pre-built values (no per-request slice is
built from the configured lists): regenerated fact. -/
theorem C18_preflight_installs :
    Facts.cors_installs.all (fun row => match row with
      | [fn, _, op, cls] =>
        if fn == b "handleCORSPreflight" || fn == b "processOriginForPreflight" || fn == b "processACRPN"
            || fn == b "processACRM" || fn == b "processACRH" then
          op == b "copy" || (op == b "assign" && (cls == b "singleton" || cls == b "request" || cls == b "response"
            || cls.hasPrefix (b "config:")))
        else true
      | _ => false) = true := by
  repeat rw [b_ofList]
  decide

#print axioms C18_bound
#print axioms C18_no_alloc_in_loops
#print axioms C18_loop_callees
#print axioms C18_preflight_installs

end Cors
