import CorsVerif.Proofs.Validate
import CorsVerif.Proofs.Translated
import CorsVerif.Proofs.Literals
/-
  C05 — Every valid configuration is accepted; every violation is reported, typed.

  For every `Config` value and every behaviour of the library oracles `ext`:
    * the leaves of the error returned by validation are exactly the violations of
      `Spec.prohibitions` — same errors, same multiplicity, even the same order — so nothing is
      missed (no early exit), nothing spurious is reported, and every error carries the
      offending value as supplied with the documented Reason / Type / bounds;
    * a Config without violations is accepted;
    * `cfgerrors.All` over the returned error yields exactly these leaves (with C19).
-/
namespace Cors
open Gen ValidateProofs

/-- **C05.** The error tree of a rejected configuration flattens to exactly the violations. -/
theorem C05 (ext : Ext) (cfg : Config) (e : Err) (h : newInternalConfig ext cfg = .error e) :
    ETree.leaves e = Spec.prohibitions ext cfg := by
  obtain ⟨_, rfl⟩ := (rejected_iff ext cfg e).mp h
  exact allErrs_leaves ext cfg

/-- **C05 (acceptance).** A Config that violates no documented prohibition is accepted. -/
theorem C05_accept (ext : Ext) (cfg : Config) (h : Spec.prohibitions ext cfg = []) :
    ∃ icfg, newInternalConfig ext cfg = .ok icfg :=
  (exists_accepted_iff_prohibitions ext cfg).mpr h

/-- **C05 (rejection).** Conversely a Config with at least one violation is rejected: with `C05_accept`,
"accepted iff no violation". -/
theorem C05_reject (ext : Ext) (cfg : Config) (icfg : ICfg) (h : newInternalConfig ext cfg = .ok icfg) :
    Spec.prohibitions ext cfg = [] :=
  (exists_accepted_iff_prohibitions ext cfg).mp ⟨icfg, h⟩

/-- The forbidden-method error is built after `Normalize`; it still carries the value as supplied: normalisation
leaves a forbidden method alone. -/
theorem C05_value_verbatim (name : Bytes) (h : Spec.forbiddenMethods.contains name.upper = true) :
    Spec.normalizeMethod name = name := by
  rw [← Methods.normalize_eq]
  exact normalize_of_forbidden ((Methods.isForbidden_eq name).trans h)

/-- The documented bounds carried by the out-of-bounds errors are the regenerated constants. -/
theorem C05_bounds :
    Facts.cors_defaultPreflightStatus = 204 ∧ Facts.cors_validatePreflightStatus_lowerBound = 200 ∧
    Facts.cors_validatePreflightStatus_upperBound = 299 ∧ Facts.cors_validateMaxAge_defaultMaxAge = 5 ∧
    Facts.cors_validateMaxAge_upperBound = 86400 ∧ Facts.cors_validateMaxAge_disableCaching = -1 := by decide

/-- **C19 (count).** The number of errors `cfgerrors.All` yields for a rejected configuration is
the number of individual violations. -/
theorem C19_count (ext : Ext) (cfg : Config) (e : Err) (h : newInternalConfig ext cfg = .error e) :
    (ETree.leaves e).length = (Spec.prohibitions ext cfg).length := by
  rw [C05 ext cfg e h]

/-- Non-vacuity: a Config with three simultaneous violations in three fields. -/
example (ext : Ext) :
    Spec.prohibitions ext { origins := [], methods := [Spec.b "CONNECT"], maxAge := 86401 } =
      [.originPattern [] .missing, .method (Spec.b "CONNECT") .forbidden, .maxAge 86401 5 86400 (-1)] := by
  rfl

#print axioms C05
#print axioms C05_accept
#print axioms C05_reject
#print axioms C05_value_verbatim
#print axioms C05_bounds
#print axioms C19_count

/-! ### Message prefix

"… whose messages start with `cors: `".  The model carries no message texts; the regenerated fact
`cfgerrors_messageTemplates` lists, for every `Error() string` method of package cfgerrors, the constant each of its
`return`s starts from (a literal, or the constant format of `fmt.Sprintf` — whose output begins with the format's
text up to its first verb).  Every one of them begins with `cors: `, none is of another shape, and all eight exported
error types are there.  (The correspondence harness checks the same on every error value it sees; this covers the
arms no configuration reaches, such as the `default:` of `IncompatibleOriginPatternError.Error`.) -/

def corsPrefix : Bytes := Spec.b "cors: "

/-- The text after `Type|`. -/
def templateText (e : Bytes) : Bytes := (e.dropWhile (· != 124)).drop 1

/-- **C05 (messages).** Every message template begins with `cors: `, and each of the eight exported error types has one. -/
theorem C05_message_prefix :
    (∀ e ∈ Facts.cfgerrors_messageTemplates, (templateText e).take corsPrefix.length = corsPrefix) ∧
    (∀ ty ∈ [Spec.b "*UnacceptableOriginPatternError", Spec.b "*UnacceptableMethodError", Spec.b "*UnacceptableHeaderNameError",
        Spec.b "*MaxAgeOutOfBoundsError", Spec.b "*PreflightSuccessStatusOutOfBoundsError", Spec.b "*IncompatibleOriginPatternError",
        Spec.b "*IncompatiblePrivateNetworkAccessModesError", Spec.b "*IncompatibleWildcardResponseHeaderNameError"],
      ∃ e ∈ Facts.cfgerrors_messageTemplates, e.take ty.length = ty ∧ (e.drop ty.length).head? = some 124) := by
  unfold corsPrefix; repeat rw [Spec.b_ofList]
  decide +kernel

#print axioms C05_message_prefix

/-- **C05 (translated validators).** `validatePreflightStatus` and `validateMaxAge`, regenerated from config.go on every run, are `Validate.status` and
`Validate.maxAge` for every integer (`Translated.validatePreflightStatus_eq`, where the claim is spelt out, and `validateMaxAge_eq`). -/
theorem C05_validators_translated (x : Int) :
    Gen.GoSrc.validatePreflightStatus x = (match Validate.status x with | .ok v => (none, v) | .error e => (some e, 0)) ∧
    Gen.GoSrc.validateMaxAge x = (match Validate.maxAge x with | .ok v => (none, v) | .error e => (some e, [])) :=
  ⟨Translated.validatePreflightStatus_eq x, Translated.validateMaxAge_eq x⟩

#print axioms C05_validators_translated

/-- **C05 (translated loop bodies).** The loop bodies of `validateMethods`, `validateRequestHeaders` and `validateResponseHeaders`, regenerated from config.go on
every run, are the model's step functions, hence the loops its folds (`Translated.loops_eq`, where the claim is spelt out). -/
theorem C05_loops_translated (credentialed : Bool) (names : List Bytes) :
    names.foldl Gen.GoSrc.methodStep {} = names.foldl Validate.methodStep {} ∧
    names.foldl (Gen.GoSrc.reqHdrStep credentialed) {} = names.foldl (Validate.reqHdrStep credentialed) {} ∧
    names.foldl (Gen.GoSrc.resHdrStep credentialed) {} = names.foldl (Validate.resHdrStep credentialed) {} :=
  Translated.loops_eq credentialed names

#print axioms C05_loops_translated

/-- **C05 (translated origin loop).** The loop body of `validateOrigins`, regenerated from config.go on every run, is `Validate.originStep`, hence the loop is the
model's fold (`Translated.originLoop_eq`, where the claim is spelt out). -/
theorem C05_originLoop_translated (ext : Ext) (credentialed pnaAny tolInsecure tolPSL : Bool) (patterns : List Bytes) :
    patterns.foldl (Gen.GoSrc.originStep ext credentialed pnaAny tolInsecure tolPSL) {} =
      patterns.foldl (Validate.originStep ext credentialed pnaAny tolInsecure tolPSL) {} :=
  Translated.originLoop_eq ext credentialed pnaAny tolInsecure tolPSL patterns

#print axioms C05_originLoop_translated

/-! ### The hand-modelled rest of config.go

Next to the translated loop bodies and loop-free validators, the model of config.go keeps by hand: the prologue and the
epilogue of each list validator (`len(names) == 0`, the declarations, `errors.Join(errs...)`, the assignments into `icfg` —
`Validate.methods`, `requestHeaders`, `responseHeaders`, `origins`), the orchestration of `newInternalConfig` (the order of the
validators = the order of `Validate.allErrs`; the flags `validateOrigins` reads are copied before it runs; `nil` is returned
with the error) and `newConfig` (C06).  Their text is fingerprinted on every run (`cors_cfgSkeletons`: SHA-256 of the text with the loops replaced by `<loop>`; Gen/Facts.lean
carries the texts in the comment of that fact) and pinned here to the fingerprints of the text the model was written from; the differential suites tie their meaning. -/

def auditedCfgSkeletons : List Bytes := [
  Spec.b "validateOrigins|0303a87f81b11c61c232c8ff",
  Spec.b "validateMethods|b522981c75af1f5548c1a2b1",
  Spec.b "validateRequestHeaders|87c29ec5e31706f15eea92b3",
  Spec.b "validateResponseHeaders|df585120ce1a8aa18c6f7933",
  Spec.b "newInternalConfig|420009560347ad264070d6ad",
  Spec.b "newConfig|0b7058a57d97f5fe5a297b39"
]

/-- **C05 (config skeletons).** The hand-modelled parts of config.go have the audited fingerprints. -/
theorem C05_cfg_skeletons : Facts.cors_cfgSkeletons = auditedCfgSkeletons :=
  Spec.Spelt.eq_of (by repeat constructor) (by decide +kernel)

#print axioms C05_cfg_skeletons

/-- **C05 (translated orchestration).** The order in which `newInternalConfig` runs the validators and accumulates their errors, regenerated from config.go on every
run, is that of `Validate.allErrs`, with the flag copies before `validateOrigins` (`Translated.newInternalConfigOrder_eq`, where the
claim is spelt out, and `newInternalConfigCopies_before_origins`). -/
theorem C05_orchestration_translated (ext : Ext) (cfg : Config) :
    Gen.GoSrc.newInternalConfigOrder cfg.pna cfg.pnaNoCors (Validate.statusErrs cfg).head? (Validate.originErrs ext cfg).head?
        (Validate.methodErrs cfg).head? (Validate.reqHdrErrs cfg).head? (Validate.maxAgeErrs cfg).head? (Validate.resHdrErrs cfg).head? =
      Validate.allErrs ext cfg ∧
    (Gen.GoSrc.newInternalConfigCopies.length = 5 ∧ ∀ c ∈ Gen.GoSrc.newInternalConfigCopies, c.take 2 = [49, 58]) :=
  ⟨Translated.newInternalConfigOrder_eq ext cfg, Translated.newInternalConfigCopies_before_origins⟩

#print axioms C05_orchestration_translated

end Cors
