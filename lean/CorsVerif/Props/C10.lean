import CorsVerif.Proofs.Handlers
import CorsVerif.Proofs.Vary
import CorsVerif.Proofs.Translated
import CorsVerif.Proofs.Accepted
/-
  C10 — Vary is sufficient: cache-equivalent requests get identical CORS treatment (2-safety).

  For every decision oracle, every well-formed internal configuration, both debug modes, every
  set of response headers already present and every ordered pair of requests with the same
  method that agree on every request header named in the Vary values the middleware *added* to
  the first response: the second request gets exactly the same response (status, headers,
  handler invoked or not).  Vary values set earlier in the chain are preserved as a prefix.
-/
namespace Cors
open Gen Serve

def stripLeft : Bytes → Bytes
  | 32 :: s => stripLeft s
  | 9 :: s => stripLeft s
  | s => s

/-- The header names listed in one Vary value (comma-separated, optional whitespace). -/
def Vary.names (v : Bytes) : List Bytes :=
  (Bytes.splitOn 44 v).map fun e => (stripLeft (stripLeft e).reverse).reverse

/-- The Vary values the middleware appended: what is there now beyond what was there before. -/
def addedVary (pre : HdrMap) (resp : Resp) : List Bytes :=
  ((resp.hdrs Facts.headers_Vary).getD []).drop ((pre Facts.headers_Vary).getD []).length

/-- The request-header names listed in the Vary values added by the middleware. -/
def varyNames (pre : HdrMap) (resp : Resp) : List Bytes := (addedVary pre resp).flatMap Vary.names

/-- Two requests agree on a header when the lookups are equal (absent ≠ present with zero values). -/
def agree (names : List Bytes) (r1 r2 : Req) : Prop := ∀ n ∈ names, r1.hdrs n = r2.hdrs n

theorem names_options : Vary.names Facts.headers_ValueVaryOptions =
    [Facts.headers_ACRH, Facts.headers_ACRM, Facts.headers_ACRPN, Facts.headers_Origin] := by decide

theorem names_origin : Vary.names Facts.headers_Origin = [Facts.headers_Origin] := by decide

theorem first_congr {h1 h2 : HdrMap} {k : Bytes} (h : h1 k = h2 k) : h1.first k = h2.first k := by
  unfold HdrMap.first; rw [h]

theorem preflight_congr (dec : Dec) (icfg : ICfg) (pre : HdrMap) (o a : Bytes) (dbg : Bool) {h1 h2 : HdrMap}
    (hp : h1 Facts.headers_ACRPN = h2 Facts.headers_ACRPN) (hh : h1 Facts.headers_ACRH = h2 Facts.headers_ACRH) :
    handleCORSPreflight dec icfg pre h1 o a dbg = handleCORSPreflight dec icfg pre h2 o a dbg := by
  unfold handleCORSPreflight preflightSteps processACRPN processACRH
  rw [first_congr hp, hh]

/-- The handler reads the request only through its method and four header lookups. -/
theorem serveDec_congr (dec : Dec) (icfg : ICfg) (dbg : Bool) (r1 r2 : Req) (pre : HdrMap)
    (hm : r1.method = r2.method)
    (ho : r1.hdrs Facts.headers_Origin = r2.hdrs Facts.headers_Origin)
    (ha : r1.hdrs Facts.headers_ACRM = r2.hdrs Facts.headers_ACRM)
    (hh : r1.hdrs Facts.headers_ACRH = r2.hdrs Facts.headers_ACRH)
    (hp : r1.hdrs Facts.headers_ACRPN = r2.hdrs Facts.headers_ACRPN) :
    serveDec dec icfg dbg r1 pre = serveDec dec icfg dbg r2 pre := by
  unfold serveDec
  rw [hm, first_congr ho, first_congr ha]
  cases r2.hdrs.first Facts.headers_Origin with
  | none => rfl
  | some o =>
    cases r2.hdrs.first Facts.headers_ACRM with
    | none => rfl
    | some a => simp only [preflight_congr dec icfg pre o a dbg hp hh]

theorem not_preflight_of_method {r : Req} (h : (r.method == OPTIONS) = false) : r.isPreflight = false := by
  simp [Req.isPreflight, h]

theorem serveDec_congr_nonOptions (dec : Dec) (icfg : ICfg) (dbg : Bool) (r1 r2 : Req) (pre : HdrMap)
    (hm : r1.method = r2.method) (hno : (r2.method == OPTIONS) = false)
    (ho : r1.hdrs Facts.headers_Origin = r2.hdrs Facts.headers_Origin) :
    serveDec dec icfg dbg r1 pre = serveDec dec icfg dbg r2 pre := by
  rw [serveDec_nonpreflight (not_preflight_of_method (hm ▸ hno)), serveDec_nonpreflight (not_preflight_of_method hno)]
  unfold nonPreflightHdrs
  rw [hm, first_congr ho]

theorem serveDec_addedVary (dec : Dec) (icfg : ICfg) (dbg : Bool) (r : Req) (pre : HdrMap) :
    addedVary pre (serveDec dec icfg dbg r pre) = (varyValue icfg (r.method == OPTIONS)).toList := by
  unfold addedVary
  rw [serveDec_vary, addOpt_same]
  cases varyValue icfg (r.method == OPTIONS) <;> simp

/-- Where neither handler appends `Origin` to Vary (no-cors private-network mode, or every origin allowed), a request
whose method is not OPTIONS is answered without looking at it: both handlers decide the same values. -/
theorem serveDec_const (dec : Dec) (icfg : ICfg) (hwf : icfg.tree.isEmpty = true → icfg.credentialed = false)
    (dbg : Bool) (pre : HdrMap) (hdep : (!icfg.pnaNoCors && !icfg.tree.isEmpty) = false) (r : Req)
    (hr : (r.method == OPTIONS) = false) :
    serveDec dec icfg dbg r pre = { hdrs := handleNonCORS icfg pre false, status := none, next := true } := by
  have hact : ∀ o, handleCORSActual dec icfg pre o false = handleNonCORS icfg pre false := by
    intro o
    rw [handleCORSActual_closed, handleNonCORS_closed]
    unfold actualACEH actualACAO actualACAC nonCORSACAO nonCORSACEH
    cases hp : icfg.pnaNoCors with
    | true => rfl
    | false =>
      have ht : icfg.tree.isEmpty = true := by simpa [hp] using hdep
      simp [ht, hwf ht]
  rw [serveDec_nonpreflight (not_preflight_of_method hr)]
  unfold nonPreflightHdrs
  rw [hr]
  cases r.hdrs.first Facts.headers_Origin with
  | none => rfl
  | some o => exact congrArg (Resp.mk · none true) (hact o)

theorem C10 (dec : Dec) (icfg : ICfg) (hwf : icfg.tree.isEmpty = true → icfg.credentialed = false)
    (dbg : Bool) (r1 r2 : Req) (pre : HdrMap) (hm : r1.method = r2.method)
    (ha : agree (varyNames pre (serveDec dec icfg dbg r1 pre)) r1 r2) :
    serveDec dec icfg dbg r2 pre = serveDec dec icfg dbg r1 pre := by
  unfold varyNames at ha
  rw [serveDec_addedVary] at ha
  cases hopt : (r1.method == OPTIONS) with
  | true =>
    -- all three paths list the four names
    simp only [hopt, varyValue, if_true, Option.toList_some, List.flatMap_cons, List.flatMap_nil, List.append_nil,
      names_options] at ha
    exact (serveDec_congr dec icfg dbg r1 r2 pre hm (ha _ (by simp)) (ha _ (by simp)) (ha _ (by simp))
      (ha _ (by simp))).symm
  | false =>
    have hno2 : (r2.method == OPTIONS) = false := by rw [← hm]; exact hopt
    cases hdep : (!icfg.pnaNoCors && !icfg.tree.isEmpty) with
    | true =>
      -- the response may depend on Origin, and Origin is listed
      simp only [hopt, varyValue, hdep, Bool.false_eq_true, if_false, if_true, Option.toList_some, List.flatMap_cons,
        List.flatMap_nil, List.append_nil, names_origin] at ha
      exact (serveDec_congr_nonOptions dec icfg dbg r1 r2 pre hm hno2 (ha _ (by simp))).symm
    | false =>
      -- nothing is listed, and the response does not depend on the request at all
      rw [serveDec_const dec icfg hwf dbg pre hdep r1 hopt, serveDec_const dec icfg hwf dbg pre hdep r2 hno2]

/-- **C10 (preservation).** Vary values set earlier in the chain are preserved, in order, as a prefix
(for non-preflight requests this is part of C11's frame theorem; here the preflight case). -/
theorem C10_preserve (dec : Dec) (icfg : ICfg) (dbg : Bool) (r : Req) (pre : HdrMap) (hp : r.isPreflight = true) :
    keptAsPrefix (pre Facts.headers_Vary) ((serveDec dec icfg dbg r pre).hdrs Facts.headers_Vary) :=
  serveDec_vary_kept dec icfg dbg r pre

#print axioms C10
#print axioms C10_preserve

/-- **C10 for every accepted configuration**, with the model's own tree and lexer as decisions. -/
theorem C10_accepted (ext : Ext) (cfg : Config) (icfg : ICfg) (h : newInternalConfig ext cfg = .ok icfg)
    (dbg : Bool) (r1 r2 : Req) (pre : HdrMap) (hm : r1.method = r2.method)
    (ha : agree (varyNames pre (serve icfg dbg r1 pre)) r1 r2) :
    serve icfg dbg r2 pre = serve icfg dbg r1 pre :=
  C10 (modelDec icfg) icfg (accepted_wf ext cfg icfg h).star_not_cred dbg r1 r2 pre hm ha

/-- Non-vacuity: two requests that differ only in an unrelated header agree on every list of names
that does not mention it. -/
example : agree [Facts.headers_Origin] { method := [71, 69, 84], hdrs := fun k => if k == [88] then some [[1]] else none }
    { method := [71, 69, 84], hdrs := fun _ => none } := by
  intro n hn; simp at hn; subst hn; decide

#print axioms C10_accepted

/-- **C10 (translated handlers).** `handleNonCORS` and `handleCORSActual`, regenerated from middleware.go on every run, are the model's
(`Translated.handlers_eq`, where the claim is spelt out). -/
theorem C10_handlers_translated (icfg : ICfg) (h : HdrMap) (origin : Bytes) (isOPTIONS : Bool) :
    Gen.GoSrc.handleNonCORS icfg h isOPTIONS = Serve.handleNonCORS icfg h isOPTIONS ∧
    Gen.GoSrc.handleCORSActual icfg h origin [origin] isOPTIONS =
      (Serve.handleCORSActual (Serve.modelDec icfg) icfg h origin isOPTIONS, none) :=
  Translated.handlers_eq icfg h origin isOPTIONS

#print axioms C10_handlers_translated

/-- **C10 (translated closure).** The closure returned by `Wrap`, regenerated from middleware.go on every run, is `Serve.serve`
(`Translated.serveClosure_eq`, where the claim is spelt out). -/
theorem C10_closure_translated (icfg : ICfg) (debug : Bool) (r : Req) (pre : HdrMap) :
    Gen.GoSrc.serveClosure icfg debug r pre = Serve.serve icfg debug r pre :=
  Translated.serveClosure_eq icfg debug r pre

#print axioms C10_closure_translated

end Cors
