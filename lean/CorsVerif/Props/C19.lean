import CorsVerif.Model.Errors
import CorsVerif.Proofs.Translated
/-
  C19 — cfgerrors.All yields exactly the leaf errors and honours early exit.

  For every error tree (any shape and depth) and every consumer (an arbitrary function of
  what it has been handed so far, hence every break position):
    * `yield` is never called again after it returned `false` (Go would panic);
    * what the consumer receives is the longest prefix of the leaves it accepts, plus the
      leaf on which it said stop;
    * a consumer that never stops receives exactly the leaves, each once, in order.
  `C19_count` (as many errors yielded as violations) rests on `C05` and stands in Props/C05.lean.
-/
namespace Cors
namespace ETree

/-- Feeding a list of items to the consumer, stopping after the first refusal:
the specification of what a `for … range` loop with a `break` receives. -/
def feed {α : Type} (k : List α → Bool) : Run α → List α → Run α × Bool
  | r, [] => (r, true)
  | r, x :: xs =>
    match r.yield k x with
    | (r', false) => (r', false)
    | (r', true) => feed k r' xs

theorem feed_append {α : Type} (k : List α → Bool) (r : Run α) (xs ys : List α) :
    feed k r (xs ++ ys) =
      match feed k r xs with
      | (r', false) => (r', false)
      | (r', true) => feed k r' ys := by
  induction xs generalizing r with
  | nil => simp [feed]
  | cons x xs ih =>
    simp only [List.cons_append, feed]
    cases h : r.yield k x with
    | mk r' c => cases c <;> simp [ih]

mutual
theorem all_eq_feed {α : Type} (e : ETree α) (k : List α → Bool) (r : Run α) :
    all e k r = feed k r (leaves e) := by
  cases e with
  | leaf a =>
    simp only [all, leaves, feed]
    cases h : r.yield k a with
    | mk r' c => cases c <;> rfl
  | join es => simp only [all, leaves]; exact allList_eq_feed es k r
theorem allList_eq_feed {α : Type} (es : List (ETree α)) (k : List α → Bool) (r : Run α) :
    allList es k r = feed k r (leavesList es) := by
  cases es with
  | nil => simp [allList, leavesList, feed]
  | cons e es =>
    simp only [allList, leavesList, feed_append]
    rw [all_eq_feed e k r]
    cases h : feed k r (leaves e) with
    | mk r' c =>
      cases c with
      | false => rfl
      | true => exact allList_eq_feed es k r'
end

/-- What a consumer that stops as soon as `k` says so receives from a list of items. -/
def takeUntilStop {α : Type} (k : List α → Bool) : List α → List α → List α
  | _, [] => []
  | seen, x :: xs => if k (seen ++ [x]) then x :: takeUntilStop k (seen ++ [x]) xs else [x]

theorem feed_spec {α : Type} (k : List α → Bool) (r : Run α) (xs : List α) (h : r.stopped = false) :
    (feed k r xs).1.yielded = r.yielded ++ takeUntilStop k r.yielded xs ∧ (feed k r xs).1.afterStop = r.afterStop := by
  induction xs generalizing r with
  | nil => simp [feed, takeUntilStop]
  | cons x xs ih =>
    simp only [feed, Run.yield, h, takeUntilStop]
    cases hk : k (r.yielded ++ [x]) with
    | false => simp
    | true =>
      have := ih { yielded := r.yielded ++ [x], stopped := false, afterStop := r.afterStop } rfl
      simp [this]

end ETree

open ETree

/-- **C19.** For every error tree and every consumer: no yield after stop (no panic), and the
items received are the accepted prefix of the leaves plus the one the consumer stopped on. -/
theorem C19 {α : Type} (e : ETree α) (k : List α → Bool) :
    (ETree.run e k).afterStop = false ∧
    (ETree.run e k).yielded = takeUntilStop k [] (leaves e) := by
  unfold ETree.run
  rw [all_eq_feed]
  obtain ⟨hy, ha⟩ := feed_spec k {} (leaves e) rfl
  exact ⟨ha, by simpa using hy⟩

theorem takeUntilStop_all {α : Type} (seen xs : List α) : takeUntilStop (fun _ => true) seen xs = xs := by
  induction xs generalizing seen with
  | nil => rfl
  | cons x xs ih => simp [takeUntilStop, ih]

/-- **C19 (no break).** Ranging to the end yields exactly the leaves, each once, in order. -/
theorem C19_full {α : Type} (e : ETree α) : (ETree.run e (fun _ => true)).yielded = leaves e := by
  rw [(C19 e _).2, takeUntilStop_all]

theorem takeUntilStop_break {α : Type} (n : Nat) (seen xs : List α) (hs : seen.length < n) :
    takeUntilStop (fun s => decide (s.length < n)) seen xs = xs.take (n - seen.length) := by
  induction xs generalizing seen with
  | nil => simp [takeUntilStop]
  | cons x xs ih =>
    simp only [takeUntilStop, List.length_append, List.length_singleton, decide_eq_true_eq]
    by_cases h : seen.length + 1 < n
    · rw [if_pos h, ih (seen ++ [x]) (by simpa using h)]
      have : n - seen.length = (n - (seen ++ [x]).length) + 1 := by simp; omega
      rw [this, List.take_succ_cons]
    · rw [if_neg h]
      have : n - seen.length = 1 := by omega
      simp [this]

/-- **C19 (break position).** A consumer that breaks on its `n`-th item (n ≥ 1) receives exactly
the first `n` leaves (all of them if there are fewer). -/
theorem C19_break {α : Type} (e : ETree α) (n : Nat) (hn : 0 < n) :
    (ETree.run e (fun s => decide (s.length < n))).yielded = (leaves e).take n := by
  rw [(C19 e _).2, takeUntilStop_break n [] (leaves e) (by simpa using hn)]; simp

/-- Non-vacuity: a nested join tree with a break on the second item. -/
example : (ETree.run (.join [.leaf 1, .join [.leaf 2, .leaf 3], .join [.join [.leaf 4]]] : ETree Nat)
    (fun s => decide (s.length < 2))).yielded = [1, 2] := by decide

#print axioms C19
#print axioms C19_full
#print axioms C19_break

/-- **C19 (translated origin loop).** The loop body of `validateOrigins`, regenerated from config.go on every run, is `Validate.originStep`, hence the loop is the
model's fold (`Translated.originLoop_eq`, where the claim is spelt out). -/
theorem C19_originLoop_translated (ext : Ext) (credentialed pnaAny tolInsecure tolPSL : Bool) (patterns : List Bytes) :
    patterns.foldl (Gen.GoSrc.originStep ext credentialed pnaAny tolInsecure tolPSL) {} =
      patterns.foldl (Validate.originStep ext credentialed pnaAny tolInsecure tolPSL) {} :=
  Translated.originLoop_eq ext credentialed pnaAny tolInsecure tolPSL patterns

#print axioms C19_originLoop_translated

/-- **C19 (translated orchestration).** The order in which `newInternalConfig` runs the validators and accumulates their errors, regenerated from config.go on every
run, is that of `Validate.allErrs`, with the flag copies before `validateOrigins` (`Translated.newInternalConfigOrder_eq`, where the
claim is spelt out, and `newInternalConfigCopies_before_origins`). -/
theorem C19_orchestration_translated (ext : Ext) (cfg : Config) :
    Gen.GoSrc.newInternalConfigOrder cfg.pna cfg.pnaNoCors (Validate.statusErrs cfg).head? (Validate.originErrs ext cfg).head?
        (Validate.methodErrs cfg).head? (Validate.reqHdrErrs cfg).head? (Validate.maxAgeErrs cfg).head? (Validate.resHdrErrs cfg).head? =
      Validate.allErrs ext cfg ∧
    (Gen.GoSrc.newInternalConfigCopies.length = 5 ∧ ∀ c ∈ Gen.GoSrc.newInternalConfigCopies, c.take 2 = [49, 58]) :=
  ⟨Translated.newInternalConfigOrder_eq ext cfg, Translated.newInternalConfigCopies_before_origins⟩

#print axioms C19_orchestration_translated

end Cors
