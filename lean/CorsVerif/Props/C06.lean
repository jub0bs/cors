import CorsVerif.Proofs.Accepted
import CorsVerif.Proofs.C06Assembly
import CorsVerif.Proofs.TreeRoundTrip
import CorsVerif.Proofs.NetFacts
/-
  C06 — Config() round-trips: Reconfigure(Config()) is a no-op and constructors agree.

  `C06_roundtrip` and `C06_stable` read their conclusions off `C06A.roundtrip`: what `Config()` shows for an accepted
  configuration is accepted, and the two internal configurations agree on everything the handler reads (`SameBut`).
  Hence the `Config` rendered by `Config()` validates, builds *the same handler function* and renders again to the
  same `Config` in every field other than `Origins` (that the re-listed origins build an equivalent tree is part of
  `SameBut`, and shows in `C06_roundtrip` only through the handler); after one such round trip `Config()` is a fixed
  point, `Origins` included.  `C06_ctor`: a zero-value middleware reconfigured with `&c`
  and `NewMiddleware(c)` are the same function of `c`.  `C06_render_ipv6`: `Elems` puts the brackets back
  around an IPv6 host, without which `Reconfigure(Config())` fails (DESIGN.md 7.1).
  No configuration is excluded.
-/
namespace Cors
open Gen CfgRT TreeRT

/-- **C06 (constructors).** `new(Middleware)` + `Reconfigure(&c)` ≡ `NewMiddleware(c)`. -/
theorem C06_ctor (ext : Ext) (cfg : Config) :
    Mw.zero.reconfigure ext (some cfg) =
      (match Mw.new ext cfg with | .ok m => (none, m) | .error e => (some e, Mw.zero)) :=
  Mw.zero_reconfigure ext cfg

/-- **C06 (switches).** `Config()` reports `Credentialed` and the four `ExtraConfig` switches as stored. -/
theorem C06_flags (icfg : ICfg) :
    (newConfig icfg).credentialed = icfg.credentialed ∧ (newConfig icfg).pna = icfg.pna ∧
    (newConfig icfg).pnaNoCors = icfg.pnaNoCors ∧ (newConfig icfg).tolInsecure = icfg.insecureOrigins ∧
    (newConfig icfg).tolPSL = icfg.subsOfPublicSuffixes := ⟨rfl, rfl, rfl, rfl, rfl⟩

/-- **C06 (status).** Validating the status that Config() reports gives back the stored value, if that is below 100
(as it is in every accepted configuration: `status_value_lt`); 204 is reported as 0, the default. -/
theorem C06_status (icfg : ICfg) (h : icfg.statusMinus200 < 100) :
    Validate.status (newConfig icfg).status = .ok icfg.statusMinus200 := by
  have hs : (newConfig icfg).status = if icfg.statusMinus200 = 4 then 0 else (icfg.statusMinus200 : Int) + 200 := by
    rw [C06A.newConfig_eq]
    dsimp only
    rw [show Facts.cors_defaultPreflightStatus = 204 from rfl]
    by_cases h4 : icfg.statusMinus200 = 4
    · rw [if_neg (by rw [h4]; decide), if_pos h4]
    · rw [if_pos (by simp only [bne_iff_ne, ne_eq]; omega), if_neg h4]
  rw [hs, Validate.status_eq]
  by_cases h4 : icfg.statusMinus200 = 4
  · rw [if_pos h4, if_pos rfl, h4]
  · rw [if_neg h4, if_neg (by omega), if_pos (by omega), Int.add_sub_cancel, Int.toNat_natCast]

/-- **C06 (IPv6 rendering).** `Elems` puts the brackets back around a host that contains a colon. -/
theorem C06_render_ipv6 (scheme host : Bytes) (h : host.contains Facts.origins_hostPortSep = true) :
    Node.renderEntry scheme host 0 = scheme ++ Facts.origins_schemeHostSep ++ ([91] ++ host ++ [93]) := by
  have := RoundTrip.renderEntry_eq scheme host 0 false (Nat.zero_le _)
  rw [h] at this
  simpa [Node.code] using this

/-- **One round trip.** What `Config()` shows for an accepted configuration validates without error, field by field to
what the configuration itself validated to (`build_sameBut`); so the two internal configurations agree on everything
the handler reads.  `C06_roundtrip` says this in terms of the handler and of `Config()`. -/
theorem C06A.roundtrip (ext : Ext) (hext : ∀ h info, ext.ip6 h = some info → h.head? ≠ some 42)
    {cfg : Config} (herrs : Validate.allErrs ext cfg = []) :
    Validate.allErrs ext (newConfig (Validate.build ext cfg)) = [] ∧
      SameBut (Validate.build ext (newConfig (Validate.build ext cfg))) (Validate.build ext cfg) := by
  obtain ⟨_, _, h5, _, _, _, _, h6⟩ := (allErrs_nil_iff ext cfg).mp herrs
  obtain ⟨hOne, hOerr, hOtree⟩ := origins_part ext hext _ _ _ _ _ (accepted_acceptable herrs)
  have hA : Validate.maxAge (renderMaxAge (Validate.build ext cfg).acma) = Validate.maxAge cfg.maxAge := by
    show Validate.maxAge (renderMaxAge (match Validate.maxAge cfg.maxAge with | .ok v => v | .error _ => [])) = _
    unfold Validate.maxAgeErrs at h5
    cases hm : Validate.maxAge cfg.maxAge with
    | error e => rw [hm] at h5; cases h5
    | ok v => exact maxAge_roundtrip cfg.maxAge v hm
  exact build_sameBut (c' := newConfig (Validate.build ext cfg)) herrs
    (hcred := rfl) (hpna := rfl) (hpnc := rfl) (hti := rfl) (htp := rfl)
    (hS := C06_status _ (status_value_lt cfg.status))
    (hOne := hOne) (hOerr := hOerr) (hOtree := hOtree)
    (hM := methods_roundtrip cfg.methods)
    (hQ := reqHdrs_roundtrip cfg.credentialed cfg.requestHeaders)
    -- the flag that comes back is `allowAuthorization && !(asteriskReqHdrs && credentialed)` (`reqHdrs_roundtrip`)
    (hQa := fun h => by
      show (_ && !((Validate.build ext cfg).asteriskReqHdrs && cfg.credentialed)) = _
      rw [h]; exact Bool.and_true _)
    (hA := hA)
    (hE := resHdrs_roundtrip cfg.credentialed cfg.responseHeaders (by rw [Folds.responseHeaders_eq]; exact List.flatMap_eq_nil_iff.mpr h6))

/-- **C06 (round trip).** For every accepted configuration: validating the `Config` that `Config()`
returns succeeds; the middleware built from it — equivalently, the same middleware after
`Reconfigure(Config())` — is the same handler function (same status, headers and hand-over for
every debug mode, request and pre-existing header map); and the two `Config()` values agree on
every field other than `Origins` (for which see `C06_stable`).

`hext` is the hypothesis of `C01_parsed` (the IPv6 oracle accepts no literal starting with `*`). -/
theorem C06_roundtrip (ext : Ext) (hext : ∀ h info, ext.ip6 h = some info → h.head? ≠ some 42)
    (cfg : Config) (icfg : ICfg) (acc : newInternalConfig ext cfg = .ok icfg) :
    ∃ icfg', newInternalConfig ext (newConfig icfg) = .ok icfg' ∧
      Serve.serve icfg' = Serve.serve icfg ∧
      (newConfig icfg').credentialed = (newConfig icfg).credentialed ∧
      (newConfig icfg').methods = (newConfig icfg).methods ∧
      (newConfig icfg').requestHeaders = (newConfig icfg).requestHeaders ∧
      (newConfig icfg').maxAge = (newConfig icfg).maxAge ∧
      (newConfig icfg').responseHeaders = (newConfig icfg).responseHeaders ∧
      (newConfig icfg').status = (newConfig icfg).status ∧
      (newConfig icfg').pna = (newConfig icfg).pna ∧ (newConfig icfg').pnaNoCors = (newConfig icfg).pnaNoCors ∧
      (newConfig icfg').tolInsecure = (newConfig icfg).tolInsecure ∧ (newConfig icfg').tolPSL = (newConfig icfg).tolPSL := by
  obtain ⟨herrs, rfl⟩ := (accepted_iff ext cfg _).mp acc
  obtain ⟨hall, hsame⟩ := C06A.roundtrip ext hext herrs
  exact ⟨_, (accepted_iff ext _ _).mpr ⟨hall, rfl⟩, C06A.serve_congr hsame, hsame.config⟩

theorem Config.ext' (a b : Config) (h1 : a.origins = b.origins) (h2 : a.credentialed = b.credentialed)
    (h3 : a.methods = b.methods) (h4 : a.requestHeaders = b.requestHeaders) (h5 : a.maxAge = b.maxAge)
    (h6 : a.responseHeaders = b.responseHeaders) (h7 : a.status = b.status) (h8 : a.pna = b.pna)
    (h9 : a.pnaNoCors = b.pnaNoCors) (h10 : a.tolInsecure = b.tolInsecure) (h11 : a.tolPSL = b.tolPSL) : a = b := by
  cases a; cases b; congr

/-- **C06 (last sentence: after one round trip `Config()` no longer changes).** For every accepted
configuration: the `Config` that `Config()` returns is accepted; the `Config()` of *that* middleware is
accepted as well, and from then on the value is a fixed point — literally equal in every field, `Origins`
included, whatever redundant or mutually subsuming patterns the original listed and in whatever order. -/
theorem C06_stable (ext : Ext) (hext : ∀ h info, ext.ip6 h = some info → h.head? ≠ some 42)
    (cfg : Config) (icfg : ICfg) (acc : newInternalConfig ext cfg = .ok icfg) :
    ∃ icfg' icfg'', newInternalConfig ext (newConfig icfg) = .ok icfg' ∧
      newInternalConfig ext (newConfig icfg') = .ok icfg'' ∧
      newConfig icfg'' = newConfig icfg' := by
  obtain ⟨herrs, rfl⟩ := (accepted_iff ext cfg icfg).mp acc
  obtain ⟨h1, _⟩ := C06A.roundtrip ext hext herrs
  obtain ⟨h2, s2⟩ := C06A.roundtrip ext hext h1
  obtain ⟨f2, f3, f4, f5, f6, f7, f8, f9, f10, f11⟩ := s2.config
  refine ⟨_, _, (accepted_iff ext _ _).mpr ⟨h1, rfl⟩, (accepted_iff ext _ _).mpr ⟨h2, rfl⟩, ?_⟩
  apply Config.ext' _ _ ?_ f2 f3 f4 f5 f6 f7 f8 f9 f10 f11
  -- the three `Origins` fields are `originsOf` applied once, twice and three times to `cfg.origins`, by definition
  exact originsOf_stable ext hext _ _ _ _ _ (accepted_acceptable herrs)

/-- `C06_stable`, with the handler equality of `C06_roundtrip`, for library answers of the driver's form (`Net.std`:
IDNA and public-suffix answers are parameters, IPv6 text is read by the model of `net/netip`; `Codec.extOf` is such
an `Ext`): no hypothesis is left. -/
theorem C06_stable_std (idna etld : Bytes → Bool) (cfg : Config) (icfg : ICfg)
    (acc : newInternalConfig (Net.std idna etld) cfg = .ok icfg) :
    ∃ icfg' icfg'', newInternalConfig (Net.std idna etld) (newConfig icfg) = .ok icfg' ∧
      newInternalConfig (Net.std idna etld) (newConfig icfg') = .ok icfg'' ∧
      Serve.serve icfg' = Serve.serve icfg ∧
      newConfig icfg'' = newConfig icfg' := by
  obtain ⟨i1, i2, a1, a2, heq⟩ := C06_stable (Net.std idna etld) Net.ip6_no_star cfg icfg acc
  obtain ⟨i1', a1', hserve, _⟩ := C06_roundtrip (Net.std idna etld) Net.ip6_no_star cfg icfg acc
  rw [a1] at a1'
  cases a1'
  exact ⟨i1, i2, a1, a2, hserve, heq⟩

/-! A test (evaluated by the compiler, not a theorem): one round trip can be needed, and is enough.
Listing the narrower pattern first keeps both in the tree; `Elems` sorts the wildcard first, so the
rebuilt tree drops the narrower one; from then on nothing changes. -/
def extS : Ext := { idnaXn := fun _ => true, isETLD := fun _ => false, ip6 := fun _ => none }
def rawsS : List Bytes := [Spec.b "https://b.a.com", Spec.b "https://*.a.com"]
#guard originsOf extS false false false false rawsS == [Spec.b "https://*.a.com", Spec.b "https://b.a.com"]
#guard originsOf extS false false false false (originsOf extS false false false false rawsS) == [Spec.b "https://*.a.com"]
#guard originsOf extS false false false false (originsOf extS false false false false (originsOf extS false false false false rawsS)) == [Spec.b "https://*.a.com"]

/-! A test (evaluated): an IPv4 address written in brackets is accepted, rendered without the brackets,
and the rendering parses to the same pattern (`RenderIdem.parse_render` is the theorem). -/
#guard (match Pat.parsePattern extS (Spec.b "http://[127.0.0.1]:8080") with
  | .ok p => RoundTrip.renderOf p == Spec.b "http://127.0.0.1:8080" &&
      (match Pat.parsePattern extS (RoundTrip.renderOf p) with | .ok q => q == p | .error _ => false)
  | .error _ => false)

/-! ### `slices.Sort` by its contract

`Tree.Elems` ends with `slices.Sort(res)` and `node.add` with `append(ports, port); slices.Sort(ports)`; the model uses an
insertion sort (`sortBy`) resp. a sorted insertion (`insertSorted`).  Nothing about pattern-defeating quicksort is
needed: *any* function whose result is a sorted permutation of its input — the documented contract of `slices.Sort` —
returns what the model returns, because a sorted permutation is unique. -/

/-- **C06 (sort contract, Elems).** Whatever `slices.Sort` does, if its result `s` is a permutation of `l` and sorted
(no element byte-lexicographically before its predecessor), it is the model's `sortBy Bytes.lt l`. -/
theorem C06_sort_contract (l s : List Bytes) (hperm : l.Perm s) (hsorted : Node.SortedB s) : s = sortBy Bytes.lt l :=
  (Node.sortBy_of_sorted hsorted hperm).symm

/-- **C06 (sort contract, port lists).** If `s` is a sorted permutation of `append(ports, port)` and `ports` was sorted,
`s` is the model's `insertSorted port ports`. -/
theorem C06_sort_contract_ports (ports s : List Int) (port : Int) (hp : Node.SortedInts ports)
    (hperm : (ports ++ [port]).Perm s) (hsorted : Node.SortedInts s) :
    s = insertSorted (fun a b => decide (a < b)) port ports := by
  have h1 : (insertSorted (fun a b => decide (a < b)) port ports).Perm s :=
    (Node.insertSorted_perm port ports).trans ((List.perm_append_comm (l₁ := [port]) (l₂ := ports)).trans hperm)
  exact (List.Perm.eq_of_pairwise (le := (· ≤ ·)) (fun a b _ _ hab hba => Int.le_antisymm hab hba)
    (Node.insertSorted_int_sorted port ports hp) hsorted h1).symm

#print axioms C06_ctor
#print axioms C06_flags
#print axioms C06_status
#print axioms C06_render_ipv6
#print axioms C06_roundtrip
#print axioms C06_stable
#print axioms C06_stable_std

#print axioms C06_sort_contract
#print axioms C06_sort_contract_ports

end Cors
