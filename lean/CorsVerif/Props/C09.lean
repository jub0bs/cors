import CorsVerif.Proofs.Translated
import CorsVerif.Proofs.Serve
import CorsVerif.Proofs.Pipeline
import CorsVerif.Proofs.Accepted
/-
  C09 — Debug mode follows the documented state machine over any call history; debug mode
  changes nothing but preflight diagnostics.
-/
namespace Cors
open Gen Serve Pipeline

/-- The documented state machine: is the middleware configured, and its debug mode. -/
structure SM where
  configured : Bool
  debug : Bool
deriving DecidableEq, Repr

inductive Op
  | setDebug (b : Bool)
  | reconfigureNil
  | reconfigure (cfg : Config)

/-- The documentation, clause by clause. -/
def SM.step (ext : Ext) (s : SM) : Op → SM
  | .setDebug b => if s.configured then { s with debug := b } else s       -- no-op on a passthrough middleware
  | .reconfigureNil => { configured := false, debug := false }             -- passthrough: debug invariably off
  | .reconfigure cfg =>
    match newInternalConfig ext cfg with
    | .ok _ => { configured := true, debug := s.debug }                     -- success keeps the debug mode
    | .error _ => s                                                          -- failure changes nothing

/-- The same operations on the model of `cors.Middleware`. -/
def Mw.step (ext : Ext) (m : Mw) : Op → Mw
  | .setDebug b => m.setDebug b
  | .reconfigureNil => (m.reconfigure ext none).2
  | .reconfigure cfg => (m.reconfigure ext (some cfg)).2

/-- The simulation relation; it includes "a passthrough middleware has debug off". -/
def Sim (m : Mw) (s : SM) : Prop :=
  m.icfg.isSome = s.configured ∧ m.debug = s.debug ∧ (s.configured = false → s.debug = false)

theorem sim_step (ext : Ext) (m : Mw) (s : SM) (op : Op) (h : Sim m s) : Sim (Mw.step ext m op) (SM.step ext s op) := by
  obtain ⟨h1, h2, h3⟩ := h
  cases op with
  | setDebug b =>
    simp only [Mw.step, Mw.setDebug, SM.step]
    cases hc : s.configured with
    | true => simp [Sim, h1, hc]
    | false =>
      have : m.icfg.isSome = false := by rw [h1, hc]
      simp [Sim, this, hc, h3 hc]
  | reconfigureNil => simp [Mw.step, Mw.reconfigure, SM.step, Sim]
  | reconfigure cfg =>
    simp only [Mw.step, Mw.reconfigure, SM.step]
    cases newInternalConfig ext cfg with
    | error e => exact ⟨h1, h2, h3⟩
    | ok icfg => simp [Sim, h2]

theorem sim_history (ext : Ext) {m : Mw} {s : SM} (h : Sim m s) (ops : List Op) :
    Sim (ops.foldl (Mw.step ext) m) (ops.foldl (SM.step ext) s) :=
  List.foldl_rel h fun op _ m s h => sim_step ext m s op h

/-- **C09 (state machine).** Over any sequence of SetDebug / Reconfigure calls, of any length,
starting from the zero value, the model follows the documented state machine. -/
theorem C09_sim_zero (ext : Ext) (ops : List Op) :
    Sim (ops.foldl (Mw.step ext) Mw.zero) (ops.foldl (SM.step ext) { configured := false, debug := false }) :=
  sim_history ext ⟨rfl, rfl, fun _ => rfl⟩ ops

/-- `NewMiddleware(cfg)` is the zero value after a successful `Reconfigure(cfg)` (see also `C09_ctor`), so what holds
after any history from the zero value holds after any history from `NewMiddleware`. -/
theorem new_eq_step {ext : Ext} {cfg : Config} {m : Mw} (hm : Mw.new ext cfg = .ok m) :
    Mw.step ext Mw.zero (.reconfigure cfg) = m ∧
    SM.step ext { configured := false, debug := false } (.reconfigure cfg) = { configured := true, debug := false } := by
  unfold Mw.new at hm
  simp only [Mw.step, Mw.reconfigure, SM.step, Mw.zero]
  cases hc : newInternalConfig ext cfg with
  | error e => simp [hc] at hm
  | ok icfg =>
    simp only [hc, Except.ok.injEq] at hm
    exact ⟨hm, rfl⟩

/-- **C09 (state machine, from `NewMiddleware`).** The same over any sequence of calls on a middleware made by
`NewMiddleware(cfg)`, which starts configured with debug off. -/
theorem C09_sim_new (ext : Ext) (cfg : Config) (m : Mw) (hm : Mw.new ext cfg = .ok m) (ops : List Op) :
    Sim (ops.foldl (Mw.step ext) m) (ops.foldl (SM.step ext) { configured := true, debug := false }) := by
  have h := C09_sim_zero ext (.reconfigure cfg :: ops)
  rwa [List.foldl_cons, List.foldl_cons, (new_eq_step hm).1, (new_eq_step hm).2] at h

/-- The configuration in force was accepted: it is the internal form of some `Config` that validation let through. -/
def Mw.Accepted (ext : Ext) (m : Mw) : Prop :=
  ∀ i, m.icfg = some i → ∃ cfg, newInternalConfig ext cfg = .ok i

theorem accepted_step (ext : Ext) (m : Mw) (op : Op) (h : m.Accepted ext) : (Mw.step ext m op).Accepted ext := by
  cases op with
  | setDebug b => intro i hi; exact h i (by simpa [Mw.step, Mw.setDebug] using hi)
  | reconfigureNil => intro i hi; simp [Mw.step, Mw.reconfigure] at hi
  | reconfigure cfg =>
    intro i hi
    simp only [Mw.step, Mw.reconfigure] at hi
    cases hc : newInternalConfig ext cfg with
    | error e => rw [hc] at hi; exact h i hi
    | ok icfg =>
      rw [hc] at hi
      simp only [Option.some.injEq] at hi
      subst hi
      exact ⟨cfg, hc⟩

theorem accepted_history (ext : Ext) {m : Mw} (h : m.Accepted ext) (ops : List Op) :
    (ops.foldl (Mw.step ext) m).Accepted ext :=
  List.foldlRecOn ops (Mw.step ext) h fun m hm op _ => accepted_step ext m op hm

/-- **Every reachable state holds an accepted configuration.** After any sequence of `SetDebug` and
`Reconfigure` calls (valid, invalid or nil, in any order), starting from the zero value or from
`NewMiddleware`, the middleware is passthrough or holds the internal form of a `Config` that validation
accepted. This is what makes the theorems stated for every accepted configuration (C01-C03, C10, C16; those of C11
hold of any configuration) statements about *every state a middleware can be in*; `C09_reachable_response` spells out
what that means for the handler returned by `Wrap`. -/
theorem C09_reachable_accepted (ext : Ext) (m0 : Mw) (h0 : m0 = Mw.zero ∨ ∃ cfg, Mw.new ext cfg = .ok m0) (ops : List Op) :
    (ops.foldl (Mw.step ext) m0).Accepted ext := by
  have hz : Mw.zero.Accepted ext := fun i hi => by cases hi
  rcases h0 with rfl | ⟨cfg, hm⟩
  · exact accepted_history ext hz ops
  · have h := accepted_history ext hz (.reconfigure cfg :: ops)
    rwa [List.foldl_cons, (new_eq_step hm).1] at h

/-- The history of a middleware enters what it answers through these two invariants only. -/
theorem serve_of_sim {ext : Ext} {m : Mw} {s : SM} (hs : Sim m s) (ha : m.Accepted ext) (r : Req) (pre : HdrMap) :
    (s.configured = false ∧ m.serve r pre = { hdrs := pre, status := none, next := true }) ∨
    (s.configured = true ∧ ∃ cfg icfg, newInternalConfig ext cfg = .ok icfg ∧ m.serve r pre = Serve.serve icfg s.debug r pre) := by
  obtain ⟨h1, h2, _⟩ := hs
  unfold Mw.serve
  cases hi : m.icfg with
  | none =>
    rw [hi] at h1
    exact Or.inl ⟨h1.symm, rfl⟩
  | some icfg =>
    rw [hi] at h1
    obtain ⟨cfg, hc⟩ := ha icfg hi
    exact Or.inr ⟨h1.symm, cfg, icfg, hc, by rw [h2]⟩

/-- **Every response of a middleware reached from the zero value** (one made by `NewMiddleware` is such a one:
`new_eq_step`) is either the untouched pass-through (no configuration in force) or `Serve.serve icfg debug` for the
internal form `icfg` of an accepted `Config` and the debug mode the documented state machine prescribes after the same
operations. -/
theorem C09_reachable_response (ext : Ext) (ops : List Op) (r : Req) (pre : HdrMap) :
    let m := ops.foldl (Mw.step ext) Mw.zero
    let s := ops.foldl (SM.step ext) { configured := false, debug := false }
    (s.configured = false ∧ m.serve r pre = { hdrs := pre, status := none, next := true }) ∨
    (s.configured = true ∧ ∃ cfg icfg, newInternalConfig ext cfg = .ok icfg ∧ m.serve r pre = Serve.serve icfg s.debug r pre) :=
  serve_of_sim (C09_sim_zero ext ops) (C09_reachable_accepted ext Mw.zero (Or.inl rfl) ops) r pre

/-- Creation through the zero value + Reconfigure and through NewMiddleware agree. -/
theorem C09_ctor (ext : Ext) (cfg : Config) :
    (match Mw.new ext cfg with | .ok m => (none, m) | .error e => (some e, Mw.zero)) =
      Mw.zero.reconfigure ext (some cfg) :=
  (Mw.zero_reconfigure ext cfg).symm

/-- **C09 (debug changes only preflight diagnostics).** On any request that is not a preflight
the response does not depend on the debug flag at all. -/
theorem C09_nonpreflight (dec : Dec) (icfg : ICfg) (r : Req) (pre : HdrMap) (h : r.isPreflight = false) :
    serveDec dec icfg true r pre = serveDec dec icfg false r pre := by
  rw [serveDec_nonpreflight h, serveDec_nonpreflight h]

/-- In both debug modes a preflight is answered by the middleware alone. -/
theorem C09_preflight_next (dec : Dec) (icfg : ICfg) (dbg : Bool) (r : Req) (pre : HdrMap) (h : r.isPreflight = true) :
    (serveDec dec icfg dbg r pre).next = false := by
  rw [serveDec_next, h]
  rfl

/-- The diagnostic headers: the five the pipeline produces, and Access-Control-Max-Age. -/
def isDiagKey (k : Bytes) : Prop := isPipelineKey k ∨ k = Facts.headers_ACMA

/-- **C09 (debug mode touches nothing but the diagnostics).** On a preflight, every response
header other than the six diagnostic ones (Allow-Origin, Allow-Credentials, Allow-Private-Network,
Allow-Methods, Allow-Headers, Max-Age) is the same in both debug modes — in particular Vary, and
whatever was in the header map before. -/
theorem C09_preflight_frame (dec : Dec) (icfg : ICfg) (r : Req) (pre : HdrMap) (h : r.isPreflight = true)
    (k : Bytes) (hk : ¬ isDiagKey k) :
    (serveDec dec icfg true r pre).hdrs k = (serveDec dec icfg false r pre).hdrs k := by
  obtain ⟨o, a, _, _, e⟩ := serveDec_preflight h
  simp only [e, handleCORSPreflight_other _ _ _ _ _ _ _ (fun h => hk (Or.inl h)) (fun h => hk (Or.inr h))]

/-- For an accepted configuration, a header step that succeeds with debug off succeeds with debug on: the scan of the
lines can only succeed when names are listed, and then the list that debug mode sends is not empty. -/
theorem headerCondD_debug {dec : Dec} {icfg : ICfg} (hrs : icfg.ReqHdrsSound) (reqHdrs : HdrMap)
    (h : headerCondD dec icfg reqHdrs false = true) : headerCondD dec icfg reqHdrs true = true := by
  unfold headerCondD at h ⊢
  cases hl : reqHdrs Facts.headers_ACRH with
  | none => rfl
  | some lines =>
    cases hast : icfg.asteriskReqHdrs with
    | true => rfl
    | false =>
      simp only [hl, hast, Bool.false_or, Bool.false_eq_true, if_false, Bool.and_eq_true] at h
      simp only [Bool.false_or, if_true, hrs.acah_isEmpty hast]
      exact h.1

/-- **C09 (a preflight that succeeds without debug mode succeeds with it, identically up to
Allow-Headers).** For an accepted configuration: same status, every header other than
Access-Control-Allow-Headers identical, and Allow-Headers either identical or the full list of
allowed request-header names. -/
theorem C09_preflight_success (dec : Dec) (icfg : ICfg) (hwf : icfg.WF) (hrs : icfg.ReqHdrsSound)
    (r : Req) (pre : HdrMap) (h : r.isPreflight = true)
    (h0 : (serveDec dec icfg false r pre).status = some (okStatus icfg)) :
    (serveDec dec icfg true r pre).status = some (okStatus icfg) ∧
    (∀ k, k ≠ Facts.headers_ACAH → (serveDec dec icfg true r pre).hdrs k = (serveDec dec icfg false r pre).hdrs k) ∧
    ((serveDec dec icfg true r pre).hdrs Facts.headers_ACAH = (serveDec dec icfg false r pre).hdrs Facts.headers_ACAH ∨
     (serveDec dec icfg true r pre).hdrs Facts.headers_ACAH = some icfg.acah) := by
  obtain ⟨o, a, _, _, e⟩ := serveDec_preflight h
  rw [e] at h0
  simp only [e]
  -- debug off: the pipeline succeeded, so the four conditions hold, and then so does debug mode's header condition
  have c0 := (preflight_ok_iff dec icfg hwf pre r.hdrs o a).mp h0
  rw [← headerCondD_false] at c0
  simp only [Bool.and_eq_true] at c0
  obtain ⟨⟨⟨c1, c2⟩, c3⟩, c4⟩ := c0
  have c4' := headerCondD_debug hrs r.hdrs c4
  -- so both responses carry the same decided values, up to the one for Allow-Headers
  simp only [handleCORSPreflight_closed, c1, c2, c3, c4, c4', Bool.and_self, Bool.or_true, if_true]
  refine ⟨trivial, fun k hk => preflightWritten_congr_acah _ _ _ _ _ _ _ _ hk, ?_⟩
  rw [preflightWritten_acah, preflightWritten_acah]
  rcases expACAH_debug icfg r.hdrs with hh | hh <;> rw [hh]
  · exact Or.inl rfl
  · exact Or.inr rfl

/-- Non-vacuity of the state machine: zero value, SetDebug(true), Reconfigure(nil) — debug stays off. -/
example (ext : Ext) : ([Op.setDebug true, Op.reconfigureNil].foldl (Mw.step ext) Mw.zero).debug = false := rfl

#print axioms C09_sim_zero
#print axioms C09_sim_new
#print axioms C09_ctor
#print axioms C09_nonpreflight
#print axioms C09_preflight_next
#print axioms C09_preflight_frame
#print axioms C09_preflight_success
#print axioms C09_reachable_accepted
#print axioms C09_reachable_response

/-- **C09 (translated pipeline).** The four steps of the preflight pipeline, regenerated from middleware.go on every run, are the model's
(`Translated.pipeline_eq`, where the claim is spelt out). -/
theorem C09_pipeline_translated (icfg : ICfg) (buf : Serve.Buf) (reqHdrs : HdrMap) (origin acrm : Bytes) (debug : Bool) :
    Gen.GoSrc.processOriginForPreflight icfg buf origin [origin] = GoRt.result buf (Serve.processOriginForPreflight (Serve.modelDec icfg) icfg buf origin) ∧
    Gen.GoSrc.processACRPN icfg buf reqHdrs = GoRt.result buf (Serve.processACRPN icfg buf reqHdrs) ∧
    Gen.GoSrc.processACRM icfg buf acrm [acrm] = GoRt.result buf (Serve.processACRM icfg buf acrm) ∧
    Gen.GoSrc.processACRH icfg buf reqHdrs debug = GoRt.result buf (Serve.processACRH (Serve.modelDec icfg) icfg buf reqHdrs debug) :=
  Translated.pipeline_eq icfg buf reqHdrs origin acrm debug

#print axioms C09_pipeline_translated

/-- **C09 (translated preflight handler).** `handleCORSPreflight`, regenerated from middleware.go on every run, is the model's: header map and status
(`Translated.handleCORSPreflight_eq`, where the claim is spelt out). -/
theorem C09_preflight_translated (icfg : ICfg) (h reqHdrs : HdrMap) (origin acrm : Bytes) (debug : Bool) :
    Gen.GoSrc.handleCORSPreflight icfg h reqHdrs origin [origin] acrm [acrm] debug =
      ((Serve.handleCORSPreflight (Serve.modelDec icfg) icfg h reqHdrs origin acrm debug).hdrs,
       (Serve.handleCORSPreflight (Serve.modelDec icfg) icfg h reqHdrs origin acrm debug).status) :=
  Translated.handleCORSPreflight_eq icfg h reqHdrs origin acrm debug

#print axioms C09_preflight_translated

/-- **C09 (translated closure).** The closure returned by `Wrap`, regenerated from middleware.go on every run, is `Serve.serve`
(`Translated.serveClosure_eq`, where the claim is spelt out). -/
theorem C09_closure_translated (icfg : ICfg) (debug : Bool) (r : Req) (pre : HdrMap) :
    Gen.GoSrc.serveClosure icfg debug r pre = Serve.serve icfg debug r pre :=
  Translated.serveClosure_eq icfg debug r pre

#print axioms C09_closure_translated

/-- **C09 (translated state writers).** `Reconfigure` and `SetDebug`, regenerated from middleware.go on every run, are `Mw.reconfigure` and `Mw.setDebug`
(`Translated.reconfigure_eq`, where the claim is spelt out, and `setDebug_eq`). -/
theorem C09_state_translated (ext : Ext) (m : Mw) (cfg : Option Config) (b : Bool) :
    Gen.GoSrc.reconfigure ext m cfg = Mw.reconfigure ext m cfg ∧ Gen.GoSrc.setDebug m b = Mw.setDebug m b :=
  ⟨Translated.reconfigure_eq ext m cfg, Translated.setDebug_eq m b⟩

#print axioms C09_state_translated

/-- **C09 (translated handler, whole).** The handler returned by `Wrap` on the model's state, passthrough branch included, regenerated from middleware.go on every
run, is `Mw.serve` (`Translated.serveMw_eq`, where the claim is spelt out). -/
theorem C09_handler_translated (m : Mw) (r : Req) (pre : HdrMap) : Gen.GoSrc.serveMw m r pre = Mw.serve m r pre :=
  Translated.serveMw_eq m r pre

#print axioms C09_handler_translated

end Cors
