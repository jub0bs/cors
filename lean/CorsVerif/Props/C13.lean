import CorsVerif.Proofs.Pattern
import CorsVerif.Proofs.Translated
import CorsVerif.Spec.Fetch
import CorsVerif.Spec.Denote
import CorsVerif.Proofs.Accept
import CorsVerif.Proofs.PatternText
import CorsVerif.Proofs.NetFacts
import CorsVerif.Proofs.NetRoundTrip
import CorsVerif.Proofs.Literals
/-
  C13 — Origin-pattern grammar: documented forms accepted, documented non-forms rejected.

  Acceptance is stated on the generative grammar of Spec/Grammar.lean (a pattern given by its parts and rendered; grey
  zones excluded): `C13_accept*`.  Rejection is mostly stated on the accepted language: every accepted pattern has the
  documented form (`C13_accepted_*`, `C13_reject_bad_host_byte`, `C13_reject_ipv6_defects`), so a string without it is
  refused; the defects that do not depend on the host grammar are direct (`C13_reject_null` … `C13_reject_bad_first_byte`).
  The theorems hold for every behaviour of the library oracles `ext`, except where the model of `net/netip`
  (Model/Net.lean) stands for the address library (`C13_accept_ipv6_canonical`, `C13_accepted_ipv6_form`,
  `C13_netip_hext`).  What `idna` itself accepts for `xn--` labels is not carried: in the tie the real library answers
  for every generated case.
-/
namespace Cors
open Gen Pat

/-- **C13 (self-match).** An accepted pattern without wildcards, presented verbatim as an Origin
(within the request-side length cap), parses to an origin that the pattern denotes. -/
theorem C13_self (ext : Ext) (s : Bytes) (p : Pattern) (h : parsePattern ext s = .ok p)
    (hw : p.kind ≠ .subdomains) (hp : p.port ≠ Facts.origins_wildcardPort)
    (hlen : s.length ≤ Facts.origins_Parse_maxOriginLen) :
    ∃ o, Lex.parse s = some o ∧ Spec.denotes p o = true := by
  obtain ⟨ip, ho⟩ := (parsePattern_eq_ok.mp h).parse hw hp hlen
  exact ⟨_, ho, by simp [Spec.denotes, hw]⟩

/-- The pattern `null` is prohibited. -/
theorem C13_reject_null (ext : Ext) : parsePattern ext null = .error .prohibited := rfl
/-- The pattern `*` is prohibited. -/
theorem C13_reject_star (ext : Ext) : parsePattern ext star = .error .prohibited := rfl

/-- **C13 (shape of accepted patterns).** The scheme is not `file`, not empty and at most 64 bytes; `https` never
comes with an IP host; an explicit port is never the scheme's default. -/
theorem C13_accepted_shape (ext : Ext) (s : Bytes) (p : Pattern) (h : parsePattern ext s = .ok p) :
    p.scheme ≠ file ∧
    ¬ ((p.kind = .loopbackIP ∨ p.kind = .nonLoopbackIP) ∧ p.scheme = Facts.origins_schemeHTTPS) ∧
    ¬ (p.scheme = Facts.origins_schemeHTTP ∧ p.port = 80) ∧ ¬ (p.scheme = Facts.origins_schemeHTTPS ∧ p.port = 443) ∧
    p.scheme ≠ [] ∧ p.scheme.length ≤ 64 := by
  have inv := parsePattern_eq_ok.mp h
  obtain ⟨rest, hps, _⟩ := inv.scheme
  obtain ⟨_, b, l, hbl, _, _, hlen⟩ := Lex.parseScheme_some hps
  have hd := inv.noDefaultPort
  refine ⟨inv.notFile, inv.httpsNoIP, ?_, ?_, by simp [hbl], by rw [hbl]; exact hlen⟩
  · rintro ⟨h1, h2⟩; simp [isDefaultPortForScheme, h1, h2, Facts.origins_portHTTP] at hd
  · rintro ⟨h1, h2⟩; simp [isDefaultPortForScheme, h1, h2, Facts.origins_portHTTPS] at hd

/-- A string whose scheme is `file` is prohibited, whatever follows. -/
theorem C13_reject_file (ext : Ext) (s rest : Bytes) (h : Lex.parseScheme s = some (file, rest)) (hs : s ≠ star ∧ s ≠ null) :
    parsePattern ext s = .error .prohibited := by
  simp [parsePattern, hs.1, hs.2, h]

/-- A string without `://` after the scheme is invalid. -/
theorem C13_reject_no_sep (ext : Ext) (s scheme rest : Bytes) (h : Lex.parseScheme s = some (scheme, rest))
    (hs : s ≠ star ∧ s ≠ null) (hf : scheme ≠ file) (hsep : rest.cutPrefix Facts.origins_schemeHostSep = none) :
    parsePattern ext s = .error .invalid := by
  simp [parsePattern, hs.1, hs.2, h, hf, hsep]

/-- A string that does not start with a lower-case letter is invalid (upper-case scheme,
leading whitespace, empty string, …). -/
theorem C13_reject_bad_first_byte (ext : Ext) (s : Bytes) (hs : s ≠ star ∧ s ≠ null)
    (h : ∀ b t, s = b :: t → Lex.isLowerAlpha b = false) : parsePattern ext s = .error .invalid := by
  have hps : Lex.parseScheme s = none := by
    cases s with
    | nil => rfl
    | cons b t => simp [Lex.parseScheme, h b t rfl]
  simp [parsePattern, hs.1, hs.2, hps]

def sameBytes (xs ys : List Nat) : Bool := xs.all ys.contains && ys.all xs.contains

/-- **C13 (constants).** The length maxima, ports, separators and special schemes the code uses are
the documented ones; the request-side length cap is exactly the sum of the maxima
(scheme + `://` + host + trailing dot + `:` + port). -/
theorem C13_constants :
    Facts.origins_maxSchemeLen = 64 ∧ Facts.origins_maxHostLen = 253 ∧ Facts.origins_maxPortLen = 5 ∧
    Facts.origins_maxUint16 = 65535 ∧ Facts.origins_portHTTP = 80 ∧ Facts.origins_portHTTPS = 443 ∧
    Facts.origins_schemeHTTP = Spec.b "http" ∧ Facts.origins_schemeHTTPS = Spec.b "https" ∧
    Facts.origins_schemeHostSep = Spec.b "://" ∧ Facts.origins_labelSep = 46 ∧ Facts.origins_hostPortSep = 58 ∧
    Facts.origins_peekKind_wildcardSeq = Spec.b "*." ∧ Facts.origins_portWildcard = Spec.b "*" ∧
    Facts.origins_subdomainWildcard = Spec.b "*" ∧ Facts.origins_parsePort_base = 10 ∧
    Facts.origins_Parse_maxOriginLen = 64 + 3 + 253 + 1 + 1 + 5 ∧
    Facts.origins_fastParseHost_minIPv6HostLen = 4 ∧ file = Spec.b "file" ∧ null = Spec.b "null" := by
  repeat rw [Spec.b_ofList]
  decide

/-- **C13 (alphabets).** The regenerated byte tables are the documented classes, plus the grey-zone `_` among the
later scheme bytes and the label bytes — hence no upper-case letter, no byte above 127, none of `@ / ? # : [ ]` and
no whitespace in a scheme or a label. -/
theorem C13_alphabets :
    sameBytes Facts.origins_lowerAlpha (Spec.b "abcdefghijklmnopqrstuvwxyz") = true ∧
    (Spec.b "abcdefghijklmnopqrstuvwxyz0123456789+-.").all Facts.origins_laterSchemeBytes.contains = true ∧
    Facts.origins_laterSchemeBytes.all (Spec.b "abcdefghijklmnopqrstuvwxyz0123456789+-._").contains = true ∧
    (Spec.b "abcdefghijklmnopqrstuvwxyz0123456789-").all Facts.origins_asciiLabelBytes.contains = true ∧
    Facts.origins_asciiLabelBytes.all (Spec.b "abcdefghijklmnopqrstuvwxyz0123456789-_").contains = true ∧
    sameBytes Facts.origins_digits (Spec.b "0123456789") = true ∧
    sameBytes Facts.origins_nonzeroDigits (Spec.b "123456789") = true := by
  repeat rw [Spec.b_ofList]
  decide

theorem b_http : Spec.b "http" = Facts.origins_schemeHTTP := by rw [Spec.b_ofList]; rfl
theorem b_https : Spec.b "https" = Facts.origins_schemeHTTPS := by rw [Spec.b_ofList]; rfl

theorem isDefaultPort_doc (scheme : Bytes) (p : Spec.DocPort) :
    isDefaultPortForScheme scheme (docPortValue p) =
      match p with
      | .num ds => (scheme == Spec.b "http" && Spec.portValue ds == 80) || (scheme == Spec.b "https" && Spec.portValue ds == 443)
      | _ => false := by
  cases p <;>
    simp [isDefaultPortForScheme, docPortValue, Facts.origins_portHTTP, Facts.origins_portHTTPS, Facts.origins_wildcardPort,
      b_http, b_https, Bool.and_comm]

/-- The right-hand side is `isDefaultPort` of `DocV4` and `DocV6`: without `https` only 80 with `http` is left. -/
theorem isDefaultPort_ip {scheme : Bytes} (hnh : scheme ≠ Spec.b "https") (p : Spec.DocPort) :
    isDefaultPortForScheme scheme (docPortValue p) =
      match p with
      | .num ds => scheme == Spec.b "http" && Spec.portValue ds == 80
      | _ => false := by
  rw [isDefaultPort_doc]
  cases p <;> simp [hnh]

open Spec Accept RoundTrip

/-- **C13 (acceptance, any lexical domain that passes the IDNA check).** `C13_accept` with the conditions on
the labels replaced by what the lexer needs (`LexLabels`) and the IDNA check of the model (`idnaOK`: the modelled
plain-ASCII rule, or the answer of `profile.ToASCII` — the oracle `ext.idnaXn` — when a label starts with `xn--`).
This covers Punycode hosts, relative to the library. -/
theorem C13_accept_idna (ext : Ext) (d : DocPattern) (hs : docScheme d.scheme = true) (hL : LexLabels d.labels)
    (hid : idnaOK ext d.host = true) (hp : docPortOK d.port = true)
    (hw : (!d.wildcard || decide (d.host.length ≤ 251)) = true) (hdef : d.isDefaultPort = false) :
    parsePattern ext d.render = .ok
      { scheme := d.scheme, value := d.hostPattern,
        kind := if d.wildcard then Kind.subdomains else Kind.domain,
        port := match d.port with
          | .absent => 0
          | .num ds => portValue ds
          | .any => Facts.origins_wildcardPort } := by
  have hw' : d.wildcard = true → (hostOf d.labels d.trailingDot).length ≤ 251 := fun hwt =>
    show d.host.length ≤ 251 by simpa [hwt] using hw
  have hhp := parseHostPattern_lex ext hL d.trailingDot d.wildcard hid hw' _ (stops_portStr d.port)
  have hstar : Spec.b "*." = [42, 46] := by rw [Spec.b_ofList]; rfl
  have := parsePattern_assemble ext hs hp hhp (by cases d.wildcard <;> simp) (by rw [isDefaultPort_doc]; exact hdef)
  rw [← hstar] at this
  exact this

/-- **C13 (acceptance, domain hosts).** Every pattern of the documented form with a domain host
(`Spec.DocPattern.ok`, Spec/Grammar.lean) is accepted by `ParsePattern`, whatever the library oracles answer, and
parses to exactly its parts. -/
theorem C13_accept (ext : Ext) (d : DocPattern) (h : d.ok = true) :
    parsePattern ext d.render = .ok
      { scheme := d.scheme, value := d.hostPattern,
        kind := if d.wildcard then Kind.subdomains else Kind.domain,
        port := match d.port with
          | .absent => 0
          | .num ds => portValue ds
          | .any => Facts.origins_wildcardPort } := by
  simp only [DocPattern.ok, Bool.and_eq_true, Bool.not_eq_true'] at h
  obtain ⟨⟨⟨⟨hs, hd⟩, hp⟩, hw⟩, hdef⟩ := h
  have hL := labels_of_doc hd
  exact C13_accept_idna ext d hs (lex_of_labels hL) (idna_doc ext hL d.trailingDot) hp hw hdef

/-- **C13 (self-match of documented patterns, at every length maximum).** A documented pattern
without wildcards, presented verbatim as an Origin, is parsed by the request-side lexer into an
origin that the pattern denotes — in particular at all maxima at once (64-byte scheme, 253-byte
domain, trailing dot, 5-digit port: 327 bytes, the request-side cap). -/
theorem C13_accept_self (ext : Ext) (d : DocPattern) (h : d.ok = true) (hw : d.wildcard = false) (hany : d.port ≠ .any) :
    ∃ p o, parsePattern ext d.render = .ok p ∧ Lex.parse d.render = some o ∧ Spec.denotes p o = true := by
  have hacc := C13_accept ext d h
  simp only [DocPattern.ok, Bool.and_eq_true, Bool.not_eq_true'] at h
  obtain ⟨⟨⟨⟨hs, hd⟩, hpo⟩, _⟩, _⟩ := h
  refine ⟨_, _, hacc, render_plain hw ▸ parse_domain hs (labels_of_doc hd) d.trailingDot hpo hany, ?_⟩
  -- same scheme, same host, and the port of a numeral or of no port part on both sides
  cases hpt : d.port with
  | any => exact absurd hpt hany
  | _ => simp [Spec.denotes, hw, DocPattern.hostPattern, DocPattern.host, hostOf, portNum]

/-- **C13 (acceptance, dotted-quad IPv4 hosts).** Every pattern `scheme://a.b.c.d[:port]` of the documented form
(`Spec.DocV4.ok`: never `https`) is accepted, as a loopback pattern exactly when the first field is `127`. -/
theorem C13_accept_ipv4 (ext : Ext) (v : DocV4) (h : v.ok = true) :
    parsePattern ext v.render = .ok
      { scheme := v.scheme, value := v.host,
        kind := if v.a == [49, 50, 55] then Kind.loopbackIP else Kind.nonLoopbackIP,
        port := match v.port with
          | .absent => 0
          | .num ds => portValue ds
          | .any => Facts.origins_wildcardPort } := by
  simp only [DocV4.ok, Bool.and_eq_true, Bool.not_eq_true', bne_iff_ne, ne_eq] at h
  obtain ⟨⟨⟨⟨⟨⟨⟨hs, hnh⟩, ha⟩, hb⟩, hc⟩, hd⟩, hp⟩, hdef⟩ := h
  exact parsePattern_assemble ext hs hp (parseHostPattern_v4 ext v.a v.b v.c v.d ha hb hc hd _ (stops_portStr v.port))
    (fun _ => b_https ▸ hnh) ((isDefaultPort_ip hnh v.port).trans hdef)

/-- Non-vacuity: a loopback pattern with a port, and the metadata address. -/
example : ({ scheme := Spec.b "http", a := Spec.b "127", b := Spec.b "0", c := Spec.b "0", d := Spec.b "1",
             port := .num (Spec.b "8080") } : Spec.DocV4).ok = true := by
  repeat rw [Spec.b_ofList]
  decide
example : ({ scheme := Spec.b "http", a := Spec.b "169", b := Spec.b "254", c := Spec.b "169", d := Spec.b "254",
             port := .any } : Spec.DocV4).render = Spec.b "http://169.254.169.254:*" := by
  repeat rw [Spec.b_ofList]
  decide
example : ({ scheme := Spec.b "http", a := Spec.b "256", b := Spec.b "0", c := Spec.b "0", d := Spec.b "1",
             port := .absent } : Spec.DocV4).ok = false := by
  repeat rw [Spec.b_ofList]
  decide

/-- **C13 (acceptance, bracketed IPv6 hosts, relative to the address library).** A pattern
`scheme://[lit][:port]` of the documented form (`Spec.DocV6.ok`: never `https`), in which the first of `.`, `:`, `%`
in `lit` is a colon (`hmark`: what sends `netip.ParseAddr` to its IPv6 branch), is accepted as soon as
`netip.ParseAddr` (the oracle `ext.ip6`) reads `lit` as a zone-free address that is not IPv4-mapped and whose
canonical text is `lit` itself; it is a loopback pattern exactly when the library says the address is a loopback
address.  `horacle` … `hcanon` are the complete list of oracle answers the acceptance depends on. -/
theorem C13_accept_ipv6 (ext : Ext) (v : DocV6) (h : v.ok = true) (info : IP6Info)
    (hmark : firstIPMark v.lit = some 58) (horacle : ext.ip6 v.lit = some info)
    (hz : info.zone = false) (h46 : info.is4in6 = false) (hcanon : info.canon = v.lit) :
    parsePattern ext v.render = .ok
      { scheme := v.scheme, value := v.lit,
        kind := if info.loopback then Kind.loopbackIP else Kind.nonLoopbackIP,
        port := match v.port with
          | .absent => 0
          | .num ds => portValue ds
          | .any => Facts.origins_wildcardPort } := by
  simp only [DocV6.ok, Bool.and_eq_true, Bool.not_eq_true', bne_iff_ne, ne_eq, decide_eq_true_eq] at h
  obtain ⟨⟨⟨⟨⟨hs, hnh⟩, hlen⟩, hnb⟩, hp⟩, hdef⟩ := h
  have hnb' : (93 : Nat) ∉ v.lit := fun hm => by rw [List.contains_iff_mem.mpr hm] at hnb; cases hnb
  have := parsePattern_assemble (hostStr := 91 :: v.lit ++ [93]) ext hs hp
    (by simpa using parseHostPattern_v6 ext v.lit info hlen hnb' hmark horacle hz h46 hcanon (portStr v.port))
    (fun _ => b_https ▸ hnh) ((isDefaultPort_ip hnh v.port).trans hdef)
  have hb1 : Spec.b "://[" = Spec.b "://" ++ [91] := by repeat rw [Spec.b_ofList]; rfl
  have hb2 : Spec.b "]" = [93] := by rw [Spec.b_ofList]; rfl
  have e : v.render = v.scheme ++ Spec.b "://" ++ (91 :: v.lit ++ [93]) ++ v.portString := by simp [DocV6.render, hb1, hb2]
  rw [e]
  exact this

/-- Non-vacuity: `http://[::1]:9090` has the documented form, and `::1` the colon mark. -/
example : ({ scheme := Spec.b "http", lit := Spec.b "::1", port := .num (Spec.b "9090") } : Spec.DocV6).ok = true := by
  repeat rw [Spec.b_ofList]
  decide
example : firstIPMark (Spec.b "::1") = some 58 := by
  repeat rw [Spec.b_ofList]
  decide

/-- **C13 (the form of every accepted pattern).** An accepted pattern that contains no `[` is
literally `scheme://host` followed by nothing, `:*`, or `:` and the canonical decimal of a port in
1..65535; every byte of the host is `*`, `.`, a digit or a label byte (a-z, 0-9, `-`, `_` by
`C13_alphabets`).  Hence every string with an upper-case or non-ASCII host byte, userinfo, a path,
query or fragment, whitespace, or an empty / zero / over-range / over-long / leading-zero port is
rejected. -/
theorem C13_accepted_form (ext : Ext) (s : Bytes) (p : Pattern) (h : parsePattern ext s = .ok p) (hnb : (91 : Nat) ∉ s) :
    ∃ portStr, s = p.scheme ++ Facts.origins_schemeHostSep ++ p.value ++ portStr ∧
      (∀ c ∈ p.value, c = 42 ∨ c = Facts.origins_labelSep ∨ Lex.isDigit c = true ∨ Lex.isASCIILabelByte c = true) ∧
      (portStr = [] ∨ portStr = [58, 42] ∨ ∃ n, 1 ≤ n ∧ n ≤ 65535 ∧ portStr = 58 :: Bytes.itoa n) := by
  have inv := parsePattern_eq_ok.mp h
  rcases inv.text with ⟨hs, hv⟩ | ⟨hs, _⟩
  · refine ⟨portText p.port, hs, valueBytes_class hv, ?_⟩
    have hle : p.port ≤ 65536 := inv.port_le
    by_cases h0 : p.port = 0
    · exact Or.inl (if_pos h0)
    by_cases h1 : p.port = 65536
    · exact Or.inr (Or.inl ((if_neg h0).trans (if_pos h1)))
    · exact Or.inr (Or.inr ⟨p.port, by omega, by omega, (if_neg h0).trans (if_neg h1)⟩)
  · exact absurd (by rw [hs]; simp) hnb

/-- **C13 (IP-literal defects, relative to the address library).** Every accepted pattern whose
host is an IPv6 literal is one that `netip.ParseAddr` reads as a zone-free address that is not
IPv4-mapped and whose canonical text is the literal itself: zoned, IPv4-mapped and non-canonical
literals are rejected. -/
theorem C13_reject_ipv6_defects (ext : Ext) (s : Bytes) (p : Pattern) (h : parsePattern ext s = .ok p)
    (hk : p.kind = .loopbackIP ∨ p.kind = .nonLoopbackIP) (h6 : firstIPMark p.value = some 58) :
    ∃ info, ext.ip6 p.value = some info ∧ info.zone = false ∧ info.is4in6 = false ∧ info.canon = p.value := by
  -- `hk` is not used: a host with a colon can only have stood in brackets, which makes it an IP host
  obtain ⟨info, hi, hz, h46, hc, _⟩ := (parsePattern_eq_ok.mp h).ip6 h6
  exact ⟨info, hi, hz, h46, hc⟩

/-- Upper-case letters, `@`, `/`, `?`, `#`, space, tab, and every byte above 127. -/
def badHostByte (c : Nat) : Bool :=
  (65 ≤ c && c ≤ 90) || c == 64 || c == 47 || c == 63 || c == 35 || c == 32 || c == 9 || 128 ≤ c

/-- **C13 (rejection).** A bracket-free string whose host part contains an upper-case letter, a
userinfo `@`, a `/`, `?`, `#`, whitespace or a non-ASCII byte is not accepted. -/
theorem C13_reject_bad_host_byte (ext : Ext) (s : Bytes) (p : Pattern) (h : parsePattern ext s = .ok p) (hnb : (91 : Nat) ∉ s) :
    ∀ c ∈ p.value, badHostByte c = false := by
  obtain ⟨_, _, hcl, _⟩ := C13_accepted_form ext s p h hnb
  intro c hc
  -- by the byte tables a host byte is `*`, `.`, a digit, a lower-case letter, `-` or `_`
  have := hcl c hc
  simp only [Lex.isDigit_eq, Lex.isASCIILabelByte_eq, Spec.isLDH, Spec.isLower, Spec.isDigit, Facts.origins_labelSep,
    Bool.or_eq_true, Bool.and_eq_true, decide_eq_true_eq, beq_iff_eq] at this
  simp only [badHostByte, Bool.or_eq_false_iff, Bool.and_eq_false_iff, decide_eq_false_iff_not, beq_eq_false_iff_ne]
  omega

/-- Non-vacuity of `C13_accept`: a documented pattern with every part. -/
def exDoc : Spec.DocPattern where
  scheme := Spec.b "chrome-extension+v1.0"
  wildcard := true
  labels := [Spec.b "api-2", Spec.b "example", Spec.b "co", Spec.b "uk"]
  trailingDot := true
  port := .num (Spec.b "65535")
example : exDoc.ok = true := by
  unfold exDoc
  repeat rw [Spec.b_ofList]
  decide
example : exDoc.render = Spec.b "chrome-extension+v1.0://*.api-2.example.co.uk.:65535" := by
  unfold exDoc
  repeat rw [Spec.b_ofList]
  decide
example : ({ scheme := Spec.b "https", wildcard := false, labels := [Spec.b "example", Spec.b "com"], trailingDot := false,
             port := .num (Spec.b "443") } : Spec.DocPattern).ok = false := by   -- default port: not of the documented form
  repeat rw [Spec.b_ofList]
  decide

/-- An `Ext` that answers no to everything: the pattern below is accepted, and read as an origin, without any oracle. -/
def ext0 : Ext := { idnaXn := fun _ => false, isETLD := fun _ => false, ip6 := fun _ => none }
example : (parsePattern ext0 (Spec.b "https://example.com:8080")).toOption.map (·.port) = some 8080 := by
  repeat rw [Spec.b_ofList]
  decide
example : (Lex.parse (Spec.b "https://example.com:8080")).map (·.port) = some 8080 := by
  repeat rw [Spec.b_ofList]
  decide

/-- **Only serialisations are read as origins** (the converse direction): whatever string the request-side
lexer accepts is `scheme://host[:port]` of the origin it returns, with the host verbatim or in brackets
and the port the decimal numeral of a number 1-65535. A string that is not a serialised origin is therefore
never treated like one (`parse_not_serialised` of tools/judges.py applies this predicate to the real lexer). -/
theorem C13_parse_sound {s : Bytes} {o : Origin} (h : Lex.parse s = some o) :
    ∃ hostStr portS, s = o.scheme ++ [58, 47, 47] ++ hostStr ++ portS ∧
      (hostStr = o.host.value ∨ hostStr = 91 :: o.host.value ++ [93]) ∧
      ((portS = [] ∧ o.port = 0) ∨ (portS = 58 :: Bytes.itoa o.port ∧ 1 ≤ o.port ∧ o.port ≤ 65535)) := by
  obtain ⟨_, r2, r3, hps, hfp, hport⟩ := Lex.parse_eq_some.mp h
  have hs : s = o.scheme ++ [58, 47, 47] ++ r2 := by rw [(Lex.parseScheme_some hps).1]; exact (List.append_assoc ..).symm
  obtain ⟨hostStr, hr2, hform⟩ : ∃ hostStr, r2 = hostStr ++ r3 ∧ (hostStr = o.host.value ∨ hostStr = 91 :: o.host.value ++ [93]) := by
    rcases Lex.fastParseHost_cases hfp with ⟨h1, _⟩ | h1
    · exact ⟨91 :: o.host.value ++ [93], by rw [h1]; simp, Or.inr rfl⟩
    · exact ⟨o.host.value, h1.eq, Or.inl rfl⟩
  refine ⟨hostStr, r3, by rw [hs, hr2]; simp, hform, ?_⟩
  rcases hport with h0 | ⟨r4, rfl, hpp⟩
  · exact Or.inl h0
  · obtain ⟨hds, h1, h2⟩ := RoundTrip.parsePort_inv hpp
    exact Or.inr ⟨by rw [hds]; rfl, h1, h2⟩

/-- **C13 (acceptance, IPv6 hosts, no oracle).** Take any IPv6 address that is not IPv4-mapped — eight
16-bit fields `gs` — and write it in its canonical text `Net.render6 gs` (RFC 5952: lower-case hex, no
leading zeros, the first longest run of two or more zero fields compressed to `::`). The pattern
`scheme://[text][:port]` with a documented scheme other than `https` and a documented port is accepted,
with the text as host value, as a loopback pattern exactly for `::1`. The address library is the model of
`net/netip` (Model/Net.lean); `Net.fields_render` is what makes the statement unconditional. -/
theorem C13_accept_ipv6_canonical (idna etld : Bytes → Bool) (scheme : Bytes) (port : DocPort) (gs : List Nat)
    (hlen : gs.length = 8) (hlt : ∀ g ∈ gs, g < 65536) (h4 : Net.is4in6 gs = false)
    (hs : docScheme scheme = true) (hnh : scheme ≠ Spec.b "https") (hp : docPortOK port = true)
    (hdef : ({ scheme := scheme, lit := Net.render6 gs, port := port } : DocV6).isDefaultPort = false) :
    parsePattern (Net.std idna etld) ({ scheme := scheme, lit := Net.render6 gs, port := port } : DocV6).render = .ok
      { scheme := scheme, value := Net.render6 gs,
        kind := if gs == [0, 0, 0, 0, 0, 0, 0, 1] then Kind.loopbackIP else Kind.nonLoopbackIP,
        port := docPortValue port } := by
  have htext := Net.render6_text gs hlt hlen
  have hno93 : (Net.render6 gs).contains 93 = false :=
    Bool.eq_false_iff.mpr fun hc => (Net.textByte_ne (htext 93 (List.contains_iff_mem.mp hc))).2.2.1 rfl
  have hok : ({ scheme := scheme, lit := Net.render6 gs, port := port } : DocV6).ok = true := by
    simp only [DocV6.ok, hs, hp, hdef, hno93, Bool.true_and, Bool.and_true, Bool.not_false, bne_iff_ne, ne_eq,
      Bool.and_eq_true, decide_eq_true_eq]
    exact ⟨hnh, (Net.render6_colon gs hlen hlt).2⟩
  have hmark : firstIPMark (Net.render6 gs) = some 58 :=
    firstIPMark_colon _ (fun b hb => ⟨(Net.textByte_ne (htext b hb)).2.1, (Net.textByte_ne (htext b hb)).1⟩)
      (Net.render6_colon gs hlen hlt).1
  have := C13_accept_ipv6 (Net.std idna etld) { scheme := scheme, lit := Net.render6 gs, port := port } hok
    { canon := Net.render6 gs, zone := false, is4in6 := false, loopback := gs == [0, 0, 0, 0, 0, 0, 0, 1] }
    hmark (Net.ip6_render gs hlen hlt h4) rfl rfl rfl
  rw [this]
  cases port <;> rfl

/-- Non-vacuity: `2001:db8::1` is the canonical text of an address that is not IPv4-mapped. -/
example : Net.render6 [0x2001, 0xdb8, 0, 0, 0, 0, 0, 1] = Spec.b "2001:db8::1" ∧ Net.is4in6 [0x2001, 0xdb8, 0, 0, 0, 0, 0, 1] = false := by
  repeat rw [Spec.b_ofList]
  decide

/-- **C13 (accepted IPv6 hosts are canonical texts, no oracle).** The converse of
`C13_accept_ipv6_canonical`: whenever a pattern with an IPv6 host is accepted (address library = the model of
`net/netip`), the host is the canonical text `Net.render6 gs` of the address `gs` it parses to, and that
address is not IPv4-mapped. Together: the accepted IPv6 hosts are exactly the canonical texts of the addresses
that are not IPv4-mapped. -/
theorem C13_accepted_ipv6_form (idna etld : Bytes → Bool) (s : Bytes) (p : Pattern)
    (h : parsePattern (Net.std idna etld) s = .ok p)
    (hk : p.kind = .loopbackIP ∨ p.kind = .nonLoopbackIP) (h6 : firstIPMark p.value = some 58) :
    ∃ gs, Net.fields p.value = some gs ∧ Net.is4in6 gs = false ∧ p.value = Net.render6 gs := by
  obtain ⟨info, hi, hz, h4, hc⟩ := C13_reject_ipv6_defects (Net.std idna etld) s p h hk h6
  have hi' : Net.ip6 p.value = some info := hi
  cases hcut : Bytes.cutAt 37 p.value with
  | some r =>
    -- a zone: `info.zone` would be true
    rw [Net.ip6_zone hcut] at hi'
    split at hi'
    · cases hi'
    · obtain ⟨gs, _, rfl⟩ := Option.map_eq_some_iff.mp hi'
      cases hz
  | none =>
    rw [Net.ip6_no_zone hcut] at hi'
    obtain ⟨gs, hf, rfl⟩ := Option.map_eq_some_iff.mp hi'
    have h4' : Net.is4in6 gs = false := h4
    exact ⟨gs, hf, h4', by simpa [Net.infoOf, h4'] using hc.symm⟩

/-- **The IPv6 hypothesis of the tree theorems, discharged.** `C01_config`, `C01_request`, `C06_roundtrip` … assume that
the IPv6 oracle accepts no text starting with `*`.  For the model of `net/netip` (`Net.ip6`, Model/Net.lean), with
which the driver answers IPv6 questions, that is a theorem. -/
theorem C13_netip_hext (ext : Ext) (he : ext.ip6 = Net.ip6) :
    ∀ h info, ext.ip6 h = some info → h.head? ≠ some 42 :=
  he ▸ Net.ip6_no_star

/-- Tests of the `net/netip` model on single inputs: canonical forms, zone, IPv4-mapped, loopback, two refusals. -/
example : (Net.ip6 (Spec.b "2001:db8:0:0:1:0:0:1")).map (·.canon) = some (Spec.b "2001:db8::1:0:0:1") := by
  repeat rw [Spec.b_ofList]
  decide
example : (Net.ip6 (Spec.b "::1")).map (·.loopback) = some true := by
  repeat rw [Spec.b_ofList]
  decide
example : (Net.ip6 (Spec.b "::ffff:1.2.3.4")).map (·.is4in6) = some true := by
  repeat rw [Spec.b_ofList]
  decide
example : (Net.ip6 (Spec.b "fe80::1%eth0")).map (·.zone) = some true := by
  repeat rw [Spec.b_ofList]
  decide
example : Net.ip6 (Spec.b "1:2:3:4:5:6:7:8:9") = none := by
  repeat rw [Spec.b_ofList]
  decide
example : Net.ip6 (Spec.b "1::2::3") = none := by
  repeat rw [Spec.b_ofList]
  decide

#print axioms C13_accept
#print axioms C13_accept_self
#print axioms C13_accept_idna
#print axioms C13_accept_ipv4
#print axioms C13_accept_ipv6
#print axioms C13_accepted_form
#print axioms C13_reject_ipv6_defects
#print axioms C13_reject_bad_host_byte
#print axioms C13_constants
#print axioms C13_alphabets
#print axioms C13_self
#print axioms C13_accepted_shape
#print axioms C13_reject_null
#print axioms C13_reject_star
#print axioms C13_reject_file
#print axioms C13_reject_no_sep
#print axioms C13_reject_bad_first_byte
#print axioms C13_parse_sound
#print axioms C13_netip_hext
#print axioms C13_accept_ipv6_canonical
#print axioms C13_accepted_ipv6_form

/-- **C13 (translated origin loop).** The loop body of `validateOrigins`, regenerated from config.go on every run, is
`Validate.originStep`, hence the loop is the model's fold (`Translated.originLoop_eq`, where the claim is spelt out). -/
theorem C13_originLoop_translated (ext : Ext) (credentialed pnaAny tolInsecure tolPSL : Bool) (patterns : List Bytes) :
    patterns.foldl (Gen.GoSrc.originStep ext credentialed pnaAny tolInsecure tolPSL) {} =
      patterns.foldl (Validate.originStep ext credentialed pnaAny tolInsecure tolPSL) {} :=
  Translated.originLoop_eq ext credentialed pnaAny tolInsecure tolPSL patterns

#print axioms C13_originLoop_translated

end Cors
