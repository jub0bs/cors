import CorsVerif.Spec.Fetch
import CorsVerif.Model.Serve
import CorsVerif.Proofs.Literals
/-
  C12 — Behaviour is immune to caller-side mutation and to request history.

  (a) History independence: in the model a response is a function of (configuration, debug flag,
      request, response headers already present); serving a request changes no state.
  (b) Aliasing: an ownership model over the *regenerated* install facts.  Every slice the
      middleware puts into a header map on a path that continues into the wrapped handler is
      either allocated by the call itself (`Header.Add` / `Header.Set`) or a slice of the current
      request (`installs_safe`); from this fact alone an adversary that overwrites every slice it
      can reach cannot change what later requests read (`C12_noninterference`).  Three more facts
      are no hypotheses of that theorem; they say that its heap has the right shape: the request
      path writes neither through the configuration nor to package-level variables, so the
      adversary's writes are the only ones (`no_request_path_writes`); `Config()` stores only
      fresh slices (`config_fresh`); the wrapped handler is called with `w` and `r` themselves
      (`handler_gets_same_args`).
  What the theorems cannot carry: that the extractor classifies every Go expression correctly
  and Go's real aliasing.  The tie performs the adversary (harness `-adversarial`).
-/
namespace Cors
open Gen Spec

namespace C12

/-- Provenance classes of slices. -/
inductive Cls | fresh | request | response | singleton | config | buffer | other
deriving DecidableEq, Repr

def clsOf (b' : Bytes) : Cls :=
  if b' == b "fresh" then .fresh
  else if b' == b "request" then .request
  else if b' == b "response" then .response
  else if b' == b "singleton" then .singleton
  else if b' == b "buffer" then .buffer
  else if b'.hasPrefix (b "config:") then .config
  else .other

/-- Functions after which the wrapped handler runs (it can reach what they installed). -/
def handlerVisible (fn : Bytes) : Bool := fn == b "handleNonCORS" || fn == b "handleCORSActual"

/-- A row `function|target|operation|provenance` is safe when, on a handler-visible path, what
goes into the response header map is fresh or a slice of this very request. -/
def safeRow : List Bytes → Bool
  | [fn, target, _, cls] =>
    if handlerVisible fn && target == b "resHdrs" then clsOf cls == .fresh || clsOf cls == .request else true
  | _ => false

/-- **C12 (install facts).** Every header-map write of the request path, regenerated on every run, is safe in the sense of `safeRow`. -/
theorem installs_safe : Facts.cors_installs.all safeRow = true := by
  unfold safeRow handlerVisible clsOf
  repeat rw [b_ofList]
  decide

/-- `Config()` stores only freshly allocated slices into its result. -/
theorem config_fresh : Facts.cors_newConfigSlices.all (fun r => r.getLast? == some (b "fresh")) = true := by decide

/-- The request path writes neither through the configuration nor to package-level variables. -/
theorem no_request_path_writes : Facts.cors_requestPathWrites = [] := by decide

/-- The wrapped handler receives the identifiers `w` and `r` themselves. -/
theorem handler_gets_same_args : Facts.cors_handlerCalls.all (· == b "w,r") = true := by decide

/-- A heap of slice cells; each cell has an owner class and a content. -/
structure Cell where
  cls : Cls
  val : Nat
deriving DecidableEq

/-- What an adversarial wrapped handler or caller may overwrite: the cells of the classes installed on
handler-visible paths.  For `installedClasses` these are `fresh` and `request` (`installedClasses_safe`; the slices
`Config()` returns are `fresh` too, `config_fresh`) — never `singleton` or `config`. -/
def adversaryMayWrite (installed : List Cls) (c : Cell) : Bool := installed.contains c.cls

/-- One adversary step: overwrite cell `i`, if reachable, with an arbitrary value. -/
def adversaryStep (installed : List Cls) : List Cell → Nat → Nat → List Cell
  | [], _, _ => []
  | c :: cs, 0, v => (if adversaryMayWrite installed c then { c with val := v } else c) :: cs
  | c :: cs, i + 1, v => c :: adversaryStep installed cs i v

/-- What later requests of any middleware read from the heap: the shared singletons and the
configuration-owned slices (fresh and request cells belong to one call only). -/
def readByLaterCalls (heap : List Cell) : List Cell := heap.filter fun c => c.cls == .singleton || c.cls == .config

theorem step_preserves (installed : List Cls) (h : ∀ c ∈ installed, c ≠ Cls.singleton ∧ c ≠ Cls.config)
    (heap : List Cell) (i v : Nat) :
    readByLaterCalls (adversaryStep installed heap i v) = readByLaterCalls heap := by
  induction heap generalizing i with
  | nil => rfl
  | cons c cs ih =>
    cases i with
    | zero =>
      simp only [adversaryStep]
      by_cases hw : adversaryMayWrite installed c = true
      · rw [if_pos hw]
        obtain ⟨h1, h2⟩ := h _ (List.contains_iff_mem.mp hw)
        simp [readByLaterCalls, h1, h2]
      · rw [if_neg hw]
    | succ i =>
      simp only [adversaryStep, readByLaterCalls, List.filter_cons]
      have := ih i
      unfold readByLaterCalls at this
      rw [this]

theorem steps_preserve (installed : List Cls) (h : ∀ c ∈ installed, c ≠ Cls.singleton ∧ c ≠ Cls.config)
    (heap : List Cell) (writes : List (Nat × Nat)) :
    readByLaterCalls (writes.foldl (fun h w => adversaryStep installed h w.1 w.2) heap) = readByLaterCalls heap := by
  induction writes generalizing heap with
  | nil => rfl
  | cons w ws ih => rw [List.foldl_cons, ih, step_preserves installed h]

/-- The classes installed on handler-visible paths, read off the regenerated facts. -/
def installedClasses : List Cls :=
  (Facts.cors_installs.filterMap fun
    | [fn, target, _, cls] => if handlerVisible fn && target == b "resHdrs" then some (clsOf cls) else none
    | _ => none)

theorem installedClasses_safe : ∀ c ∈ installedClasses, c = .fresh ∨ c = .request := by
  intro c hc
  obtain ⟨row, hrow, h⟩ := List.mem_filterMap.mp hc
  have hs := List.all_eq_true.mp installs_safe row hrow
  split at h
  · split at h
    · rename_i hg
      cases h
      simpa [safeRow, hg] using hs
    · cases h
  · cases h

end C12

open C12 in
/-- **C12.** With the install facts of the current source tree, adversarial in-place writes to
every reachable slice never change what later requests (of this or any other middleware) read. -/
theorem C12_noninterference (heap : List Cell) (writes : List (Nat × Nat)) :
    readByLaterCalls (writes.foldl (fun h w => adversaryStep installedClasses h w.1 w.2) heap) = readByLaterCalls heap :=
  steps_preserve installedClasses (fun c hc => by rcases installedClasses_safe c hc with rfl | rfl <;> decide) heap writes

/-- **C12 (history independence).** Serving a request leaves the middleware state untouched: the
model's handler returns a response and nothing else, so the k-th response depends only on the
state, the k-th request and the headers already present. Stated: serving any list of requests
first does not change the answer to a later request. -/
theorem C12_history (m : Mw) (earlier : List (Req × HdrMap)) (r : Req) (pre : HdrMap) :
    (earlier.foldl (fun (st : Mw) (rq : Req × HdrMap) => let _ := st.serve rq.1 rq.2; st) m).serve r pre = m.serve r pre := by
  induction earlier with
  | nil => rfl
  | cons x xs ih => simpa using ih

#print axioms C12.installs_safe
#print axioms C12.config_fresh
#print axioms C12.no_request_path_writes
#print axioms C12.handler_gets_same_args
#print axioms C12_noninterference
#print axioms C12_history

end Cors
