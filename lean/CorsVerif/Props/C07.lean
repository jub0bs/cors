import CorsVerif.Model.Conc
import CorsVerif.Gen.Facts
import CorsVerif.Proofs.Literals
/-
  C07 — Reconfiguration is atomic and race-free under concurrent traffic.  (PARTIAL w.r.t. the Go runtime)

  Over the lock-level model (`Model/Conc.lean`: any number of threads, any schedule, any number of steps) the
  invariant `Conc.Inv` — every thread well-locked from its mode, a writer excludes everybody, what a reader has seen
  in its region is current — holds in every reachable state.  The programs the threads run (lock operations and
  guarded-field accesses of `Wrap`'s handler, `Reconfigure`, `SetDebug`, `Config`, `NewMiddleware`) are regenerated from
  middleware.go on every run and shown well-locked; that no other function touches the mutex or the guarded fields, who
  writes into a configuration, and which methods write through their receiver, are regenerated lists compared with
  audited ones.

  What the theorems cannot carry: that sync.RWMutex implements this lock semantics, that Go's
  memory model makes lock-ordered accesses race-free, that the extracted instruction lists are
  what the compiled code does.  Tie: history suite + deterministic schedule-point harness
  (reconfiguration from inside Header()/WriteHeader()/the wrapped handler) + `-race` stress (thorough).
-/
namespace Cors
open Gen Conc

theorem upd_same {α : Type} (f : Nat → α) (i : Nat) (a : α) : upd f i a i = a := by simp [upd]
theorem upd_other {α : Type} (f : Nat → α) (i j : Nat) (a : α) (h : j ≠ i) : upd f i a j = f j := by simp [upd, h]

theorem inv_init (s : State) (h : Init s) : Inv s where
  wl i := by rw [(h i).1]; exact (h i).2
  excl i j hi _ := by rw [(h i).1] at hi; cases hi
  snap i hi := by rw [(h i).1] at hi; cases hi

/-- The mode after an instruction that is allowed in mode `m`. -/
def Conc.after : Mode → Instr → Option Mode
  | .out, .rlock => some .reading
  | .out, .lock => some .writing
  | .reading, .runlock => some .out
  | .writing, .unlock => some .out
  | .reading, .read _ => some .reading
  | .writing, .read _ => some .writing
  | .writing, .write _ => some .writing
  | m, .skip => some m
  | _, _ => none

theorem wellLocked_cons (m : Mode) (i : Instr) (p : List Instr) :
    wellLocked m (i :: p) = match after m i with
      | some m' => wellLocked m' p
      | none => false := by
  cases m <;> cases i <;> rfl

theorem Conc.Inv.head {s : State} (hs : Inv s) {i : Nat} {ins : Instr} {p : List Instr} (hp : (s.ts i).prog = ins :: p) :
    ∃ m', after (s.ts i).mode ins = some m' ∧ wellLocked m' p = true := by
  have h := hs.wl i
  rw [hp, wellLocked_cons] at h
  cases hm : after (s.ts i).mode ins with
  | none => rw [hm] at h; cases h
  | some m' => rw [hm] at h; exact ⟨m', rfl, h⟩

/-- Every case of `inv_step` is an instance: thread `i` and the shared values are replaced, exclusion is kept (`hw`, `ho`),
the new thread's snapshot is current (`hsnap`), and the values change only while nobody else reads (`hval`). -/
theorem inv_upd {s : State} (hs : Inv s) (i : Nat) (th : Thread) (val : Field → Nat)
    (hwl : wellLocked th.mode th.prog = true)
    (hw : th.mode = .writing → ∀ j, j ≠ i → (s.ts j).mode = .out)
    (ho : th.mode = .out ∨ ∀ j, j ≠ i → (s.ts j).mode ≠ .writing)
    (hsnap : th.mode = .reading → ∀ f v, th.seen f = some v → v = val f)
    (hval : val = s.val ∨ ∀ j, j ≠ i → (s.ts j).mode ≠ .reading) :
    Inv { val := val, ts := upd s.ts i th } := by
  refine ⟨fun j => ?_, fun a b ha hb => ?_, fun j hj f v hv => ?_⟩ <;> dsimp only at *
  · by_cases hji : j = i
    · subst hji; rw [upd_same]; exact hwl
    · rw [upd_other _ _ _ _ hji]; exact hs.wl j
  · by_cases hai : a = i
    · subst hai; rw [upd_same] at ha; rw [upd_other _ _ _ _ hb]; exact hw ha b hb
    · rw [upd_other _ _ _ _ hai] at ha
      by_cases hbi : b = i
      · subst hbi; rw [upd_same]
        rcases ho with h | h
        · exact h
        · exact absurd ha (h a hai)
      · rw [upd_other _ _ _ _ hbi]; exact hs.excl a b ha hb
  · by_cases hji : j = i
    · subst hji; rw [upd_same] at hj hv; exact hsnap hj f v hv
    · rw [upd_other _ _ _ _ hji] at hj hv
      rcases hval with h | h
      · rw [h]; exact hs.snap j hj f v hv
      · exact absurd hj (h j hji)

theorem inv_step {s t : State} (hs : Inv s) (h : Step s t) : Inv t := by
  -- in each case: the mover's mode before and after, from its next instruction (`Inv.head`); then `inv_upd`
  have others : ∀ {i}, (s.ts i).mode ≠ .out → ∀ j, j ≠ i → (s.ts j).mode ≠ .writing :=
    fun {i} hi j hji hj => hi (hs.excl j i hj (Ne.symm hji))
  cases h with
  | rlock i p hp hen =>
    obtain ⟨m', hm, hwl⟩ := hs.head hp
    cases hmode : (s.ts i).mode <;> rw [hmode] at hm <;> cases hm
    exact inv_upd hs i _ _ hwl (fun h => by cases h) (Or.inr fun j _ => hen j) (fun _ f v hv => by cases hv) (Or.inl rfl)
  | lock i p hp hen =>
    obtain ⟨m', hm, hwl⟩ := hs.head hp
    rw [hen i] at hm; cases hm
    exact inv_upd hs i _ _ hwl (fun _ j _ => hen j) (Or.inr fun j _ h => by rw [hen j] at h; cases h) (fun h => by cases h)
      (Or.inr fun j _ h => by rw [hen j] at h; cases h)
  | runlock i p hp | unlock i p hp =>
    obtain ⟨m', hm, hwl⟩ := hs.head hp
    cases hmode : (s.ts i).mode <;> rw [hmode] at hm <;> cases hm
    exact inv_upd hs i _ _ hwl (fun h => by cases h) (Or.inl rfl) (fun h => by cases h) (Or.inl rfl)
  | read i f p hp =>
    obtain ⟨m', hm, hwl⟩ := hs.head hp
    obtain ⟨rfl, hno⟩ : m' = (s.ts i).mode ∧ (s.ts i).mode ≠ .out := by
      cases hmode : (s.ts i).mode <;> rw [hmode] at hm <;> cases hm <;> exact ⟨rfl, by decide⟩
    refine inv_upd hs i _ _ hwl (fun h j hj => hs.excl i j h hj) (Or.inr (others hno)) (fun hr g v hv => ?_) (Or.inl rfl)
    simp only [updS] at hv
    by_cases hgf : g = f
    · subst hgf; simp at hv; exact hv.symm
    · simp only [hgf, if_false] at hv; exact hs.snap i hr g v hv
  | write i f v p hp =>
    obtain ⟨m', hm, hwl⟩ := hs.head hp
    obtain ⟨rfl, hw⟩ : m' = .writing ∧ (s.ts i).mode = .writing := by
      cases hmode : (s.ts i).mode <;> rw [hmode] at hm <;> cases hm <;> exact ⟨rfl, rfl⟩
    have hout := hs.excl i
    exact inv_upd hs i _ _ (by simpa [hw] using hwl) (fun _ j hj => hout j hw hj)
      (Or.inr fun j hj h => by rw [hout j hw hj] at h; cases h) (fun h => by simp only [hw] at h; cases h)
      (Or.inr fun j hj h => by rw [hout j hw hj] at h; cases h)
  | skip i p hp =>
    obtain ⟨m', hm, hwl⟩ := hs.head hp
    obtain rfl : m' = (s.ts i).mode := by
      cases hmode : (s.ts i).mode <;> rw [hmode] at hm <;> cases hm <;> rfl
    refine inv_upd hs i _ _ hwl (fun h j hj => hs.excl i j h hj) ?_ (fun hr => hs.snap i hr) (Or.inl rfl)
    by_cases ho : (s.ts i).mode = .out
    · exact Or.inl ho
    · exact Or.inr (others ho)

theorem inv_reachable {s t : State} (hi : Init s) (h : Steps s t) : Inv t := by
  induction h with
  | refl => exact inv_init _ hi
  | tail _ hstep ih => exact inv_step ih hstep

/-- **C07 (data-race freedom).** In every reachable state, if some thread's next instruction
writes a guarded field, no other thread's next instruction reads or writes a guarded field. -/
theorem C07_drf {s t : State} (hi : Init s) (h : Steps s t) (i j : Nat) (hij : j ≠ i)
    (f : Field) (p : List Instr) (hw : (t.ts i).prog = .write f :: p) :
    ∀ g q, (t.ts j).prog ≠ .read g :: q ∧ (t.ts j).prog ≠ .write g :: q := by
  have hinv := inv_reachable hi h
  obtain ⟨m', hm, _⟩ := hinv.head hw
  have hmode : (t.ts i).mode = .writing := by
    cases hmode : (t.ts i).mode <;> rw [hmode] at hm <;> cases hm <;> rfl
  -- `j` is outside any region, where no access is well-locked
  have hj := hinv.excl i j hmode hij
  refine fun g q => ⟨fun hr => ?_, fun hr => ?_⟩ <;>
    (obtain ⟨_, hm, _⟩ := hinv.head hr; rw [hj] at hm; cases hm)

/-- **C07 (atomic snapshot).** In every reachable state, a thread that is about to leave its read
region has, for every field it read in that region, exactly the current shared value; and at that
instant no thread is inside a write region — so the (configuration, debug) pair a request works with
(`C07_wrap_snapshot`) is one single state that was current during the call. -/
theorem C07_atomic {s t : State} (hi : Init s) (h : Steps s t) (i : Nat) (p : List Instr)
    (hr : (t.ts i).prog = .runlock :: p) :
    (∀ f v, (t.ts i).seen f = some v → v = t.val f) ∧ (∀ j, (t.ts j).mode ≠ .writing) := by
  have hinv := inv_reachable hi h
  obtain ⟨m', hm', _⟩ := hinv.head hr
  have hm : (t.ts i).mode = .reading := by
    cases hmode : (t.ts i).mode <;> rw [hmode] at hm' <;> cases hm' <;> rfl
  refine ⟨hinv.snap i hm, fun j hj => ?_⟩
  by_cases hji : i = j
  · subst hji; rw [hm] at hj; cases hj
  · have := hinv.excl j i hj hji
    rw [hm] at this; cases this

/-- One program per function of `C07_only_these`. -/
def progs : List (List Bytes) :=
  [Facts.cors_prog_Wrap, Facts.cors_prog_Reconfigure, Facts.cors_prog_SetDebug, Facts.cors_prog_Config, Facts.cors_prog_NewMiddleware]

/-- **C07 (facts, regenerated on every run).** Every program decodes, is well-locked from outside
any region, and opens at most one critical section. -/
theorem C07_facts :
    progs.all (fun p => match decodeProg p with
      | some is => wellLocked .out is && decide (regions is ≤ 1)
      | none => false) = true := by decide

/-- The handler returned by `Wrap` reads both guarded fields, inside its single read region. -/
theorem C07_wrap_snapshot :
    (match decodeProg Facts.cors_prog_Wrap with
      | some is => is.contains (.read .icfg) && is.contains (.read .debug) && is.contains .rlock && !is.contains .lock
      | none => false) = true := by decide

/-- No other function touches the mutex or the fields it guards. -/
theorem C07_only_these :
    Facts.cors_sharedStateFunctions =
      [Spec.b "Config", Spec.b "NewMiddleware", Spec.b "Reconfigure", Spec.b "SetDebug", Spec.b "Wrap"] := by
  repeat rw [Spec.b_ofList]
  decide

/-- Published configurations are never written on the request path. -/
theorem C07_immutable : Facts.cors_requestPathWrites = [] := by decide

/-- The functions that run before an internal configuration is published (`newInternalConfig` and
the validators it calls on the value under construction). -/
def constructionFunctions : List Bytes :=
  [Spec.b "newInternalConfig", Spec.b "validateOrigins", Spec.b "validateMethods", Spec.b "validateRequestHeaders",
   Spec.b "validateMaxAge", Spec.b "validateResponseHeaders", Spec.b "validatePreflightStatus"]

/-- **C07 (never mutated after publication).** Every statement of the package that writes into an
`internalConfig` value — an assignment to one of its fields (also through a selector or index
chain) or a mutating call on one of them — sits in a construction function; in particular neither
`Config()`/`newConfig` nor anything on the request path writes into a published configuration
(regenerated list `function|field|kind`). -/
theorem C07_published_immutable :
    Facts.cors_icfgWrites.all (fun row => constructionFunctions.contains ((Bytes.splitOn 124 row).headD [])) = true := by
  unfold constructionFunctions; repeat rw [Spec.b_ofList]
  decide

/-- Non-vacuity: a two-thread initial state (a reader running Wrap's program, a writer running
Reconfigure's) satisfies `Init`. -/
example : ∀ pw pr, decodeProg Facts.cors_prog_Wrap = some pw → decodeProg Facts.cors_prog_Reconfigure = some pr →
    Init { val := fun _ => 0, ts := fun i => { mode := .out, prog := if i = 0 then pw else if i = 1 then pr else [], seen := fun _ => none } } := by
  intro pw pr h1 h2 i
  -- both programs are in `progs`, so `C07_facts` says they are well-locked
  have wl : ∀ p ∈ progs, ∀ is, decodeProg p = some is → wellLocked .out is = true := fun p hp is h => by
    have := List.all_eq_true.mp C07_facts p hp
    rw [h, Bool.and_eq_true] at this
    exact this.1
  refine ⟨rfl, ?_⟩
  dsimp only
  by_cases h0 : i = 0
  · rw [if_pos h0]; exact wl _ List.mem_cons_self _ h1
  · rw [if_neg h0]
    by_cases h1' : i = 1
    · rw [if_pos h1']; exact wl _ (List.mem_cons_of_mem _ List.mem_cons_self) _ h2
    · rw [if_neg h1']; rfl

#print axioms C07_drf
#print axioms C07_atomic
#print axioms C07_facts
#print axioms C07_wrap_snapshot
#print axioms C07_only_these
#print axioms C07_immutable
#print axioms C07_published_immutable

/-- The methods of the library that write through their receiver (regenerated on every run: an assignment rooted at the
receiver or at a local pointer into it, or a call of such a method on something rooted at the receiver).  Audit:

  * `(*Middleware).Reconfigure`, `(*Middleware).SetDebug` — the two writers of the lock model (`C07_facts`);
  * `(*internalConfig).validate*` — run by `newInternalConfig` on a fresh value, before publication (`C07_published_immutable`);
  * `origins.(*Tree).Insert`, `origins.(*node).add`, `origins.(*node).upsertEdge`, `util.(*SortedSet).Add` — reached only from
    those validators (`cors_icfgWrites` lists the calls by field and kind).

Every other method of `origins.Tree`, `origins.node`, `util.SortedSet`, `util.Set` — `Contains`, `Elems`, `IsEmpty`, `IndexAfter`,
`ToSlice`, … — is read-only on its receiver, which is why `Config()` and the request path, which call them on the *published*
configuration outside the lock, race with nothing.  A method that starts to write (a memo filled by `Elems`, a cache in
`Contains`) changes this fact. -/
def auditedMutators : List Bytes := [
  Spec.b "cors.(*Middleware).Reconfigure",
  Spec.b "cors.(*Middleware).SetDebug",
  Spec.b "cors.(*internalConfig).validateMaxAge",
  Spec.b "cors.(*internalConfig).validateMethods",
  Spec.b "cors.(*internalConfig).validateOrigins",
  Spec.b "cors.(*internalConfig).validatePreflightStatus",
  Spec.b "cors.(*internalConfig).validateRequestHeaders",
  Spec.b "cors.(*internalConfig).validateResponseHeaders",
  Spec.b "origins.(*Tree).Insert",
  Spec.b "origins.(*node).add",
  Spec.b "origins.(*node).upsertEdge",
  Spec.b "util.(*SortedSet).Add"
]

/-- **C07 (mutators).** The methods that write through their receiver, regenerated on every run, are the audited ones. -/
theorem C07_mutators : Facts.cors_receiverMutators = auditedMutators :=
  Spec.Spelt.eq_of (by repeat constructor) (by decide +kernel)

#print axioms C07_mutators

end Cors
