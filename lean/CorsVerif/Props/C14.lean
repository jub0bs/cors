import CorsVerif.Proofs.ACRH
import CorsVerif.Proofs.BinarySearch
import CorsVerif.Proofs.BrowserLists
/-
  C14 — Requested-header lists: sound for any bytes, complete for browsers.

  `Headers.check` (the model of `headers.Check`: windowed comma cut, bounded OWS trimming,
  empty-element budget, strictly increasing positions in the sorted set) is proved equal to the
  specification `Spec.approved`, for every well-formed sorted set and every sequence of field
  lines over arbitrary bytes.  At the end, the same verdict for `headers.Check` with every index
  expression checked and the `slices.BinarySearch` of `SortedSet.IndexAfter` run as the library's
  halving loop (`C14_binarySearch`, `C14_check_binarySearch`).
-/
namespace Cors
open Gen Headers ACRH

/-- **C14.** For every set maintained by `SortedSet.Add` and all field lines (any bytes, any
length): approved iff every element has at most one OWS byte per side, at most 16 elements are
empty, and the non-empty elements are allowed names in strictly increasing order. -/
theorem C14 (set : SortedSet) (hwf : set.WF) (lines : List Bytes) :
    Headers.check set lines = Spec.approved Facts.headers_MaxEmptyElements set.elems lines :=
  check_eq_approved set hwf lines

/-- The number the property text fixes: at most 16 empty elements. -/
theorem C14_maxEmpty : Facts.headers_MaxEmptyElements = 16 := rfl

/-- Every set the configuration code can build (by successive `Add`) is well-formed. -/
theorem C14_wf (names : List Bytes) : (names.foldl SortedSet.add {}).WF :=
  SortedSet.ofList_wf names

/-- **C14 (soundness).** Whatever the bytes: if the lines are approved, every non-empty name they
contain is an allowed name. -/
theorem C14_sound (set : SortedSet) (hwf : set.WF) (lines : List Bytes) (h : Headers.check set lines = true) :
    ∃ ns, Spec.names (Spec.elements lines) = some ns ∧ ∀ n ∈ ns, n ≠ [] → n ∈ set.elems := by
  rw [C14 set hwf] at h
  unfold Spec.approved at h
  cases hn : Spec.names (Spec.elements lines) with
  | none => simp [hn] at h
  | some ns =>
    refine ⟨ns, rfl, ?_⟩
    simp only [hn, Bool.and_eq_true, List.all_eq_true, List.mem_filter, and_imp] at h
    intro n hmem hne
    have := h.1.2 n hmem (by cases n <;> simp_all)
    simpa using this

/-- **C14 (completeness for browsers).** The list a Fetch-compliant browser emits for allowed
headers — non-empty names without commas or whitespace, sorted, unique, all allowed, joined by
commas on one line — is approved. -/
theorem C14_browser (set : SortedSet) (hwf : set.WF) (names : List Bytes)
    (hne : ∀ n ∈ names, n ≠ [] ∧ comma ∉ n ∧ ∀ b ∈ n, isOWS b = false)
    (hmem : ∀ n ∈ names, n ∈ set.elems) (hsorted : Spec.strictlyIncreasing names = true) (hnn : names ≠ []) :
    Headers.check set [Bytes.join comma names] = true := by
  rw [Browser.check_tolerated set hwf names _ ((strictSorted_iff names).mp hsorted) (Browser.tolerated_of_plain names hnn hne),
    List.all_eq_true]
  exact fun n hn => List.contains_iff_mem.mpr (hmem n hn)

/-- **C14 (completeness for browsers, any tolerated shape).** A browser's list (sorted, unique),
re-shaped by an intermediary in any tolerated way — split across field lines, at most one OWS byte
around each element, at most 16 empty elements (`Browser.Tolerated`) — is approved exactly when
every name is allowed. -/
theorem C14_browser_tolerated (set : SortedSet) (hwf : set.WF) (names lines : List Bytes)
    (hsorted : StrictSorted names) (ht : Browser.Tolerated names lines) :
    Headers.check set lines = names.all (fun n => set.elems.contains n) :=
  Browser.check_tolerated set hwf names lines hsorted ht

/-- Non-vacuity and the documented boundary cases, on a concrete set {"a", "bc"}:
two-byte whitespace-only elements are empty elements, three bytes are refused;
16 empty elements pass, 17 fail; order matters. -/
example : (SortedSet.ofList [[98, 99], [97]]).elems = [[97], [98, 99]] := by decide
example : Headers.check (SortedSet.ofList [[98, 99], [97]]) [[97, 44, 32, 98, 99, 9], [32, 32]] = true := by decide
example : Headers.check (SortedSet.ofList [[98, 99], [97]]) [[97, 44, 32, 32, 32]] = false := by decide
example : Headers.check (SortedSet.ofList [[98, 99], [97]]) [[98, 99, 44, 97]] = false := by decide
example : Headers.check (SortedSet.ofList [[97]]) [List.replicate 15 44] = true := by decide
example : Headers.check (SortedSet.ofList [[97]]) [List.replicate 16 44] = false := by decide

/-- **C14 (binary search).** `IndexAfter` searches `set.elems[start:]` with `slices.BinarySearch`; the model scans for the
first occurrence.  For every well-formed set (strictly sorted: what `SortedSet.Add` maintains, `C14_wf`) and every `start`,
the library's halving loop (`Ix.binarySearch`) returns the lower bound and the found flag of the scan, and the model's
`findIdx` is that position when found. -/
theorem C14_binarySearch (set : SortedSet) (h : set.WF) (start : Nat) (e : Bytes) :
    Ix.binarySearch Bytes.lt e (set.elems.drop start) = Ix.bsearch Bytes.lt e (set.elems.drop start) ∧
    SortedSet.findIdx e (set.elems.drop start) =
      cond (Ix.bsearch Bytes.lt e (set.elems.drop start)).2 (some (Ix.bsearch Bytes.lt e (set.elems.drop start)).1) none := by
  rw [Ix.findIdx_eq_findPos]
  exact Ix.binarySearch_bytes e _ (ACRH.strictSorted_drop h.sorted start)

/-- **C14 (Check as the code runs it).** `Ix.checkBS` is `headers.Check` with every index and slice expression checked
(`cutAtComma`, `TrimOWS`, `set.elems[start:]`) *and* every `slices.BinarySearch` run as the library's halving loop.  For every
well-formed set of allowed names and every sequence of field lines — any bytes — it returns `.ok` of the list-level model's
verdict, which `C14` identifies with the documented approval condition. -/
theorem C14_check_binarySearch (set : SortedSet) (h : set.WF) (acrhs : List Bytes) :
    Ix.checkBS set acrhs = .ok (Headers.check set acrhs) :=
  (Ix.checkLinesBS_eq set h _ _ _).trans (Ix.check_refines set acrhs)

#print axioms C14
#print axioms C14_sound
#print axioms C14_browser
#print axioms C14_browser_tolerated
#print axioms C14_wf

#print axioms C14_binarySearch
#print axioms C14_check_binarySearch

end Cors
