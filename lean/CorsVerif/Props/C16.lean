import CorsVerif.Proofs.Pipeline
import CorsVerif.Proofs.Translated
import CorsVerif.Proofs.Accepted
/-
  C16 — With debug off, preflight responses disclose nothing beyond what was asked.

  Intrinsic form (DESIGN.md 3d), for every decision oracle, every internal configuration, every
  preflight request and every set of response headers already present, debug off:
    * the status is the (single, regenerated) failure status or the configured success status;
    * with the failure status, no header other than Vary differs from what was there before
      (in particular the middleware adds no Access-Control-* header);
    * in every case, a header other than Vary that the middleware set carries a value list of
      admissible provenance: `*`, `true`, the configured max-age, `*,authorization` (only when the configuration
      allows all request headers and lists Authorization, without credentialed access), or a slice
      of the request itself (first Origin value, first ACRM value, the ACRH lines) — never the
      configured allow-lists.
-/
namespace Cors
open Gen Serve Pipeline

/-- The value lists a debug-off preflight response may carry. -/
def admissible (icfg : ICfg) (r : Req) : List (List Bytes) :=
  [Facts.headers_WildcardSgl, Facts.headers_TrueSgl, icfg.acma]
  -- `*,authorization` only in the documented case: all request headers allowed, Authorization listed too, anonymous access
  ++ (if icfg.asteriskReqHdrs && !icfg.credentialed && icfg.allowAuthorization then [Facts.headers_WildcardAuthSgl] else [])
  ++ ((r.hdrs.first Facts.headers_Origin).map fun o => [o]).toList
  ++ ((r.hdrs.first Facts.headers_ACRM).map fun m => [m]).toList
  ++ (r.hdrs Facts.headers_ACRH).toList

/-- The provenance clause as an invariant of the accumulation buffer, kept by the header step (`acrh_step_ok`).  `C16`
goes through the closed form of the handler and does not use it. -/
def BufOK (icfg : ICfg) (r : Req) (b : Buf) : Prop := ∀ k v, b k = some v → v ∈ admissible icfg r

theorem BufOK_putOpt {icfg : ICfg} {r : Req} {b : Buf} (hb : BufOK icfg r b) (k : Bytes) {v : Option (List Bytes)}
    (hv : ∀ w, v = some w → w ∈ admissible icfg r) : BufOK icfg r (b.putOpt k v) := by
  intro k' v' h
  by_cases hk : k' = k
  · rw [hk, putOpt_same] at h
    cases v with
    | none => exact hb k v' h
    | some w => cases h; exact hv _ rfl
  · rw [putOpt_other _ _ hk] at h
    exact hb k' v' h

/-- With debug off the value decided for Access-Control-Allow-Headers is `*`, `*,authorization` in the documented
case, or the lines of the request. -/
theorem expACAH_admissible (icfg : ICfg) (r : Req) (w : List Bytes) (h : expACAH icfg false r.hdrs = some w) :
    w ∈ admissible icfg r := by
  unfold expACAH at h
  cases hl : r.hdrs Facts.headers_ACRH with
  | none => rw [hl] at h; cases h
  | some acrh =>
    have hA : acrh ∈ admissible icfg r := by simp [admissible, hl]
    rw [hl] at h
    simp only [] at h
    split at h
    · rename_i hstar
      simp only [Bool.and_eq_true, Bool.not_eq_true'] at hstar
      split at h <;> cases h
      · rename_i hauth
        simp [admissible, hstar.1, hstar.2, hauth]
      · simp [admissible]
    · split at h
      · cases h; exact hA
      · cases h; exact hA

theorem acrh_step_ok (dec : Dec) (icfg : ICfg) (r : Req) (b b' : Buf) (hb : BufOK icfg r b)
    (h : processACRH dec icfg b r.hdrs false = some b') : BufOK icfg r b' := by
  rw [processACRH_closed] at h
  split at h <;> cases h
  exact BufOK_putOpt hb _ (expACAH_admissible icfg r)

/-- The failure status is not an ok status, so success and failure are distinguishable. -/
theorem C16_distinct (icfg : ICfg) (h : icfg.WF) : okStatus icfg ≠ forbidden := okStatus_ne_forbidden icfg h

theorem exp_admissible {icfg : ICfg} {r : Req} {o a : Bytes} (ho : r.hdrs.first Facts.headers_Origin = some o)
    (ha : r.hdrs.first Facts.headers_ACRM = some a) (w : List Bytes)
    (h : expACAO icfg o = some w ∨ expACAC icfg = some w ∨ expACAPN r.hdrs = some w ∨ expACAM icfg a = some w) :
    w ∈ admissible icfg r := by
  unfold expACAO expACAC expACAPN expACAM at h
  rcases h with h | h | h | h <;> repeat' split at h
  all_goals cases h
  all_goals simp [admissible, ho, ha]

theorem C16 (dec : Dec) (icfg : ICfg) (r : Req) (pre : HdrMap) (hp : r.isPreflight = true) :
    let resp := serveDec dec icfg false r pre
    (resp.status = some forbidden ∨ resp.status = some (okStatus icfg)) ∧
    (resp.status ≠ some (okStatus icfg) → ∀ n, n ≠ Facts.headers_Vary → resp.hdrs n = pre n) ∧
    (∀ n, n ≠ Facts.headers_Vary → resp.hdrs n = pre n ∨ ∃ v ∈ admissible icfg r, resp.hdrs n = some v) := by
  obtain ⟨o, a, ho, ha, e⟩ := serveDec_preflight hp
  simp only [e, handleCORSPreflight_closed, Bool.false_or, Bool.false_and, Bool.or_false]
  cases originCond dec icfg o && pnaCond icfg r.hdrs && methodCond icfg a && headerCondD dec icfg r.hdrs false with
  | false =>
    -- a failure with debug off: nothing is copied
    simp only [Bool.false_and, Bool.false_eq_true, if_false, preflightWritten_none]
    exact ⟨Or.inl trivial, fun _ n hn => preflightVary_other pre n hn, fun n hn => Or.inl (preflightVary_other pre n hn)⟩
  | true =>
    refine ⟨Or.inr rfl, fun hne => absurd rfl hne, fun n hn => ?_⟩
    exact preflightWritten_entry pre hn (fun w h => exp_admissible ho ha w (.inl (some_of_ite h)))
      (fun w h => exp_admissible ho ha w (.inr (.inl (some_of_ite h))))
      (fun w h => exp_admissible ho ha w (.inr (.inr (.inl (some_of_ite h)))))
      (fun w h => exp_admissible ho ha w (.inr (.inr (.inr (some_of_ite h)))))
      (fun w h => expACAH_admissible icfg r w (some_of_ite h))
      (fun w h => by cases some_of_ite h; simp [admissible])

/-- Corollary in the words of the property: a preflight that fails (does not get the success
status) gets the same status whatever the reason, and no `Access-Control-*` header is added. -/
theorem C16_fail (dec : Dec) (icfg : ICfg) (r : Req) (pre : HdrMap) (hp : r.isPreflight = true)
    (hf : (serveDec dec icfg false r pre).status ≠ some (okStatus icfg)) :
    (serveDec dec icfg false r pre).status = some forbidden ∧
    ∀ n, n ≠ Facts.headers_Vary → (serveDec dec icfg false r pre).hdrs n = pre n := by
  have h := C16 dec icfg r pre hp
  exact ⟨h.1.resolve_right hf, h.2.1 hf⟩

#print axioms C16
#print axioms C16_fail
#print axioms C16_distinct

/-- **C16 for every accepted configuration**: the two statuses are distinct, so "fails" is
observable, and the model's own decisions are one instance of `dec`. -/
theorem C16_accepted (ext : Ext) (cfg : Config) (icfg : ICfg) (h : newInternalConfig ext cfg = .ok icfg)
    (r : Req) (pre : HdrMap) (hp : r.isPreflight = true) :
    okStatus icfg ≠ forbidden ∧
    ((serve icfg false r pre).status = some forbidden ∨ (serve icfg false r pre).status = some (okStatus icfg)) ∧
    ((serve icfg false r pre).status = some forbidden → ∀ n, n ≠ Facts.headers_Vary → (serve icfg false r pre).hdrs n = pre n) ∧
    (∀ n, n ≠ Facts.headers_Vary → (serve icfg false r pre).hdrs n = pre n ∨
        ∃ v ∈ admissible icfg r, (serve icfg false r pre).hdrs n = some v) := by
  have hd := C16_distinct icfg (accepted_wf ext cfg icfg h)
  have h16 := C16 (modelDec icfg) icfg r pre hp
  refine ⟨hd, h16.1, fun hf => h16.2.1 ?_, h16.2.2⟩
  unfold serve at hf
  rw [hf]
  intro hc; exact hd (Option.some.inj hc).symm

#print axioms C16_accepted

/-- **C16 (translated pipeline).** The four steps of the preflight pipeline, regenerated from middleware.go on every run, are the model's
(`Translated.pipeline_eq`, where the claim is spelt out). -/
theorem C16_pipeline_translated (icfg : ICfg) (buf : Serve.Buf) (reqHdrs : HdrMap) (origin acrm : Bytes) (debug : Bool) :
    Gen.GoSrc.processOriginForPreflight icfg buf origin [origin] = GoRt.result buf (Serve.processOriginForPreflight (Serve.modelDec icfg) icfg buf origin) ∧
    Gen.GoSrc.processACRPN icfg buf reqHdrs = GoRt.result buf (Serve.processACRPN icfg buf reqHdrs) ∧
    Gen.GoSrc.processACRM icfg buf acrm [acrm] = GoRt.result buf (Serve.processACRM icfg buf acrm) ∧
    Gen.GoSrc.processACRH icfg buf reqHdrs debug = GoRt.result buf (Serve.processACRH (Serve.modelDec icfg) icfg buf reqHdrs debug) :=
  Translated.pipeline_eq icfg buf reqHdrs origin acrm debug

#print axioms C16_pipeline_translated

/-- **C16 (translated preflight handler).** `handleCORSPreflight`, regenerated from middleware.go on every run, is the model's: header map and status
(`Translated.handleCORSPreflight_eq`, where the claim is spelt out). -/
theorem C16_preflight_translated (icfg : ICfg) (h reqHdrs : HdrMap) (origin acrm : Bytes) (debug : Bool) :
    Gen.GoSrc.handleCORSPreflight icfg h reqHdrs origin [origin] acrm [acrm] debug =
      ((Serve.handleCORSPreflight (Serve.modelDec icfg) icfg h reqHdrs origin acrm debug).hdrs,
       (Serve.handleCORSPreflight (Serve.modelDec icfg) icfg h reqHdrs origin acrm debug).status) :=
  Translated.handleCORSPreflight_eq icfg h reqHdrs origin acrm debug

#print axioms C16_preflight_translated

/-- **C16 (translated closure).** The closure returned by `Wrap`, regenerated from middleware.go on every run, is `Serve.serve`
(`Translated.serveClosure_eq`, where the claim is spelt out). -/
theorem C16_closure_translated (icfg : ICfg) (debug : Bool) (r : Req) (pre : HdrMap) :
    Gen.GoSrc.serveClosure icfg debug r pre = Serve.serve icfg debug r pre :=
  Translated.serveClosure_eq icfg debug r pre

#print axioms C16_closure_translated

/-- **C16 (translated state writers).** `Reconfigure` and `SetDebug`, regenerated from middleware.go on every run, are `Mw.reconfigure` and `Mw.setDebug`
(`Translated.reconfigure_eq`, where the claim is spelt out, and `setDebug_eq`). -/
theorem C16_state_translated (ext : Ext) (m : Mw) (cfg : Option Config) (b : Bool) :
    Gen.GoSrc.reconfigure ext m cfg = Mw.reconfigure ext m cfg ∧ Gen.GoSrc.setDebug m b = Mw.setDebug m b :=
  ⟨Translated.reconfigure_eq ext m cfg, Translated.setDebug_eq m b⟩

#print axioms C16_state_translated

end Cors
