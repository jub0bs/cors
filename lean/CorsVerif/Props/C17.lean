import CorsVerif.Proofs.Pattern
import CorsVerif.Proofs.Accepted
import CorsVerif.Proofs.Serve
import CorsVerif.Proofs.IxRefine
import CorsVerif.Proofs.IxTreeRefine
import CorsVerif.Spec.Fetch
import CorsVerif.Proofs.Literals
/-
  C17 — No input can crash configuration or request handling.  (PARTIAL)

  Every function of the model is total: Lean accepted each definition with structural
  recursion (the tree and the error iterator by mutual structural recursion over nested
  inductives, the scanners on an explicit fuel or on the input list), so the model itself cannot
  diverge or get stuck on any input.  What remains are the places where the *Go* code indexes or
  slices by hand; for each, the precondition it relies on is proved here about the model:

    P1  `Tree.Insert`'s `s[0]` and `hostOnly`'s `Value[2:]`: the host value of every accepted
        pattern is non-empty, and a subdomain pattern is `*.` + a non-empty base;
    P2  `parseHostPattern`'s `pattern.Value[:end]`: the parsed host is never longer than what was lexed
        (no theorem of its own: it is what `C17_ix_parseHostPattern` needs and proves);
    P3  `SortedSet.IndexAfter`'s `elems[start:]` (precondition n < Size): every position returned is
        below the size, so the next start is at most the size;
    P4  `cutAtComma`'s `str[i+1:]`: the comma found lies inside the string;
    P5  `fastParseHost`'s `str[1:end]`: the closing bracket comes after the opening one;
    P6  the `uint8` status arithmetic: the stored offset of an accepted configuration is below 100;
    P7  `parsePort`'s `_ = str[i:end]` hoist: `1 ≤ min(len, maxPortLen)` for a non-empty string.

  That guards and preconditions suffice is proved on the functions that contain these expressions,
  transliterated statement by statement with Go's checked `s[i]` and `s[lo:hi]`: each returns `.ok`
  of the list-level model's result for every input (`C17_ix_*`):

    P8  the lexers, `origins.Parse`, `Tree.Contains` and `headers.Check`, each with what it calls,
        `headers.First`, `insert[T]`, the `[8]uint32` bit set (Model/Ix.lean);
    P9  `Tree.Insert` with `node.add` and `node.upsertEdge`, `deleteSameSign`, `node.elems`,
        `Tree.Elems`, `parseHostPattern` with `hostOnly`, `newConfig`'s `icfg.acma[0]` (Model/IxTree.lean).

  `C17_sites` pins the complete list of index and slice expressions of the non-test code
  (regenerated from the source on every run) to the audited list below, each entry with the guard
  or the precondition theorem that keeps it in range; a new or changed index expression breaks the
  obligation.  `C17_ix_bodies` pins, by fingerprint, the text of the transliterated functions.

  What the theorems cannot carry: panics inside library calls and the Go runtime.  The tie runs
  every call of every suite under `recover`; a panic is a disagreement (the model never panics)
  and its input is the replay.
-/
namespace Cors
open Gen Pat

/-- **P1.** Non-empty host value; shape of subdomain patterns. -/
theorem C17_value_nonempty (ext : Ext) (s : Bytes) (p : Pattern) (h : parsePattern ext s = .ok p) :
    p.value ≠ [] ∧ (p.kind = .subdomains → ∃ base, p.value = 42 :: 46 :: base ∧ base ≠ []) := by
  obtain ⟨rest, _, rest2, _, rest3, hhp, _⟩ := (parsePattern_eq_ok.mp h).scheme
  have := parseHostPattern_shape hhp
  exact ⟨this.1, fun hk => by obtain ⟨b', h1, h2, _⟩ := this.2 hk; exact ⟨b', h1, h2⟩⟩

/-- **P1'.** After stripping the `*` the key handed to the tree loop is still non-empty. -/
theorem C17_insert_key_nonempty (ext : Ext) (s : Bytes) (p : Pattern) (h : parsePattern ext s = .ok p) :
    (match p.value with | 42 :: t => t | v => v) ≠ [] := by
  obtain ⟨rest, _, rest2, _, rest3, hhp, _⟩ := (parsePattern_eq_ok.mp h).scheme
  -- the value is never the one byte `*`: that is no address and no host byte, and `*.` is followed by a base
  have hne : p.value ≠ [42] := fun hv => by
    rw [hv] at hhp
    generalize p.kind = kind at hhp
    cases parseHostPattern_eq_ok.mp hhp with
    | ip _ _ hv => simpa using ipVerdict_mark hv
    | domain _ hf _ => exact absurd (Lex.fastParseHost_span hf).bytes (by decide)
  have := (parseHostPattern_shape hhp).1
  split
  · rename_i t ht; rintro rfl; exact hne ht
  · exact this

/-- **P3.** Every position `IndexAfter` returns is below the size of the set. -/
theorem C17_indexAfter_lt (set : SortedSet) (start : Nat) (e : Bytes) (i : Nat)
    (h : set.indexAfter start e = some i) : i < set.size := Ix.indexAfter_lt set start e i h

/-- **P4.** When `cutAtComma` finds a comma, it lies inside the string (so `str[i+1:]` is in range). -/
theorem C17_cutAtComma_in_range (str : Bytes) (n : Nat) (before after : Bytes)
    (h : Headers.cutAtComma str n = (before, after, true)) : before.length + 1 ≤ str.length := by
  have := Ix.cutAtComma_found str n before after h
  omega

/-- **P5.** In the bracket branch of `fastParseHost` the closing bracket comes after the opening one. -/
theorem C17_bracket_end (str before after : Bytes) (h0 : str.head? = some 91)
    (h : Bytes.cutAt 93 str = some (before, after)) : 1 ≤ before.length := Ix.cutAt_bracket h0 h

/-- **P6.** The success status of an accepted configuration is in 200..299, so the `uint8`
offset arithmetic cannot wrap. -/
theorem C17_status_range (ext : Ext) (cfg : Config) (icfg : ICfg) (h : newInternalConfig ext cfg = .ok icfg) :
    200 ≤ Serve.okStatus icfg ∧ Serve.okStatus icfg ≤ 299 :=
  okStatus_range (accepted_wf ext cfg icfg h)

/-- **P7.** `parsePort`'s bounds-check hoist `_ = str[1:min(len(str), maxPortLen)]` is in range. -/
theorem C17_parsePort_hoist (str : Bytes) (h : str ≠ []) : 1 ≤ min str.length Facts.origins_maxPortLen := by
  cases str with
  | nil => exact absurd rfl h
  | cons a t => simp [Facts.origins_maxPortLen]; omega

/-- The index and slice sites of the non-test code (regenerated on every run), each with the guard or
the proved precondition that keeps it in range:

  * `cors.newConfig|icfg.acma[0]` — guarded by `len(icfg.acma) > 0`
  * `headers.First|v[0]` — guarded by `len(v) == 0` return
  * `headers.First|v[:1]` — guarded by `len(v) == 0` return
  * `headers.cutAtComma|str[:end]` — end = min(len(str), n)
  * `headers.cutAtComma|str[:i]` — i is an index inside str[:end] (P4, C17_cutAtComma_in_range)
  * `headers.cutAtComma|str[i+1:]` — i < end <= len(str) (P4)
  * `headers.trimLeftOWS|s[0]` — loop condition `len(s) > 0`
  * `headers.trimLeftOWS|s[1:]` — loop condition `len(s) > 0`
  * `headers.trimRightOWS|s[:len(s)-1]` — loop condition `len(s) > 0`
  * `headers.trimRightOWS|s[len(s)-1]` — loop condition `len(s) > 0`
  * `origins.Contains|n.children[i]` — i found by BinarySearch in n.edges; len(edges) == len(children) (node invariant, kept by upsertEdge)
  * `origins.Insert|n.children[i]` — same
  * `origins.Insert|s[0]` — P1 (C17_value_nonempty): the host value of a parsed pattern is non-empty
  * `origins.Insert|s[1:]` — P1
  * `origins.add|n.ports[i]` — i found by BinarySearch in n.schemes; len(schemes) == len(ports) (node invariant, kept by add)
  * `origins.contains|n.ports[i]` — same
  * `origins.deleteSameSign|s[:i]` — i from BinarySearch(s, 0): 0 <= i <= len(s)
  * `origins.deleteSameSign|s[i:]` — same
  * `origins.elems|n.children[i]` — range over n.children
  * `origins.elems|n.schemes[i]` — range over n.ports; len(schemes) == len(ports)
  * `origins.fastParseHost|str[0]` — guarded by `len(str) >= minIPv6HostLen &&` resp. `len(str) == 0 ||` (short-circuit order!)
  * `origins.fastParseHost|str[1:end]` — P5 (C17_bracket_end): str[0] == '[' so IndexByte(']') >= 1
  * `origins.fastParseHost|str[:i]` — loop bound i <= len(str)
  * `origins.fastParseHost|str[end+1:]` — end < len(str)
  * `origins.fastParseHost|str[i:]` — loop bound
  * `origins.fastParseHost|str[i]` — loop condition i < len(str)
  * `origins.hostOnly|hp.Value[len(subdomainWildcard)+1:]` — P1 (C17_value_nonempty): a subdomains value is `*.` + non-empty base
  * `origins.insert|s[i+1:]` — after append: i <= old len < new len
  * `origins.insert|s[i:]` — same
  * `origins.insert|s[i]` — same
  * `origins.lastByte|str[len(str)-1]` — guarded by `len(str) == 0` return
  * `origins.parseHostPattern|pattern.Value[:end]` — P2 (C17_ix_parseHostPattern): the parsed host is never longer than what was lexed
  * `origins.parsePort|str[0]` — guarded by `len(str) == 0 ||`
  * `origins.parsePort|str[i:]` — i <= end <= len(str)
  * `origins.parsePort|str[i:end]` — P7 (C17_parsePort_hoist)
  * `origins.parsePort|str[i]` — i < end <= len(str)
  * `origins.parseScheme|str[0]` — guarded by `len(str) == 0 ||`
  * `origins.parseScheme|str[:i]` — i <= end <= len(str)
  * `origins.parseScheme|str[i:]` — same
  * `origins.parseScheme|str[i]` — i < end
  * `origins.splitAtCommonSuffix|a[:len(a)-len(s)+i]` — 0 <= i <= len(s) <= len(a)
  * `origins.splitAtCommonSuffix|b[:len(b)-len(s)+i]` — same with b
  * `origins.splitAtCommonSuffix|l[:len(s)]` — l was cut to len(s) bytes
  * `origins.splitAtCommonSuffix|l[i]` — 0 <= i < len(s) = len(l)
  * `origins.splitAtCommonSuffix|l[len(l)-len(s):]` — len(s) <= len(l) after the swap
  * `origins.splitAtCommonSuffix|s[i:]` — 0 <= i <= len(s)
  * `origins.splitAtCommonSuffix|s[i]` — loop condition 0 <= i
  * `origins.upsertEdge|n.children[i]` — i from BinarySearch in n.edges (after insert: i < len)
  * `util.Contains|as[c/32]` — c is a byte: c/32 <= 7, the array has 8 words
  * `util.IndexAfter|set.elems[start:]` — P3 (C17_indexAfter_lt): every returned position is below Size, so start <= Size
  * `util.MakeASCIISet|as[c/32]` — as for `util.Contains`
  * `util.MakeASCIISet|chars[i]` — range over len(chars)
-/
def auditedSites : List Bytes := [
  Spec.b "cors.newConfig|icfg.acma[0]|!(icfg == nil) ; len(icfg.acma) > 0",
  Spec.b "headers.First|v[0]|!(!found || len(v) == 0)",
  Spec.b "headers.First|v[:1]|!(!found || len(v) == 0)",
  Spec.b "headers.cutAtComma|str[:end]|",
  Spec.b "headers.cutAtComma|str[:i]|i >= 0",
  Spec.b "headers.cutAtComma|str[i+1:]|i >= 0",
  Spec.b "headers.trimLeftOWS|s[0]|for len(s) > 0 ; !(i > n)",
  Spec.b "headers.trimLeftOWS|s[1:]|for len(s) > 0 ; !(i > n) ; !(!isOWS(s[0]))",
  Spec.b "headers.trimRightOWS|s[:len(s)-1]|for len(s) > 0 ; !(i > n) ; !(!isOWS(s[len(s)-1]))",
  Spec.b "headers.trimRightOWS|s[len(s)-1]|for len(s) > 0 ; !(i > n)",
  Spec.b "origins.Contains|n.children[i]|!(!ok) ; !(n.contains(o.Scheme, o.Port, true)) ; !(!found)",
  Spec.b "origins.Insert|n.children[i]|!(!ok) ; !(n.contains(p.Scheme, p.Port, true)) ; !(!found)",
  Spec.b "origins.Insert|s[0]|",
  Spec.b "origins.Insert|s[1:]|s[0] == '*'",
  Spec.b "origins.add|n.ports[i]|!(n.contains(scheme, port, wildcardSubs)) ; !(!found)",
  Spec.b "origins.add|n.ports[i]|!(n.contains(scheme, port, wildcardSubs)) ; !(!found)",
  Spec.b "origins.contains|n.ports[i]|!(!found)",
  Spec.b "origins.deleteSameSign|s[:i]|!(v < 0)",
  Spec.b "origins.deleteSameSign|s[i:]|v < 0",
  Spec.b "origins.elems|n.children[i]|i := range n.children",
  Spec.b "origins.elems|n.schemes[i]|i := range n.ports",
  Spec.b "origins.fastParseHost|str[0]|!(len(str) >= minIPv6HostLen && str[0] == '[') ; !(len(str) == 0)",
  Spec.b "origins.fastParseHost|str[0]|len(str) >= minIPv6HostLen",
  Spec.b "origins.fastParseHost|str[1:end]|len(str) >= minIPv6HostLen && str[0] == '[' ; !(end == -1)",
  Spec.b "origins.fastParseHost|str[:i]|!(len(str) >= minIPv6HostLen && str[0] == '[') ; !(len(str) == 0 || str[0] == labelSep)",
  Spec.b "origins.fastParseHost|str[end+1:]|len(str) >= minIPv6HostLen && str[0] == '[' ; !(end == -1)",
  Spec.b "origins.fastParseHost|str[i:]|!(len(str) >= minIPv6HostLen && str[0] == '[') ; !(len(str) == 0 || str[0] == labelSep)",
  Spec.b "origins.fastParseHost|str[i]|!(len(str) >= minIPv6HostLen && str[0] == '[') ; !(len(str) == 0 || str[0] == labelSep) ; for i < len(str)",
  Spec.b "origins.fastParseHost|str[i]|!(len(str) >= minIPv6HostLen && str[0] == '[') ; !(len(str) == 0 || str[0] == labelSep) ; for i < len(str) ; !(str[i] == labelSep)",
  Spec.b "origins.fastParseHost|str[i]|!(len(str) >= minIPv6HostLen && str[0] == '[') ; !(len(str) == 0 || str[0] == labelSep) ; for i < len(str) ; !(str[i] == labelSep) ; !(isDigit(str[i]))",
  Spec.b "origins.hostOnly|hp.Value[len(subdomainWildcard)+1:]|hp.Kind == PatternKindSubdomains",
  Spec.b "origins.insert|s[i+1:]|",
  Spec.b "origins.insert|s[i:]|",
  Spec.b "origins.insert|s[i]|",
  Spec.b "origins.lastByte|str[len(str)-1]|!(len(str) == 0)",
  Spec.b "origins.parseHostPattern|pattern.Value[:end]|!(!ok)",
  Spec.b "origins.parsePort|str[0]|!(len(str) == 0 || !isNonZeroDigit(str[0]))",
  Spec.b "origins.parsePort|str[0]|!(len(str) == 0)",
  Spec.b "origins.parsePort|str[i:]|!(len(str) == 0 || !isNonZeroDigit(str[0])) ; !(port < 0 || maxUint16 < port)",
  Spec.b "origins.parsePort|str[i:end]|!(len(str) == 0 || !isNonZeroDigit(str[0]))",
  Spec.b "origins.parsePort|str[i]|!(len(str) == 0 || !isNonZeroDigit(str[0])) ; for i < end",
  Spec.b "origins.parsePort|str[i]|!(len(str) == 0 || !isNonZeroDigit(str[0])) ; for i < end ; !(!isDigit(str[i]))",
  Spec.b "origins.parseScheme|str[0]|!(len(str) == 0)",
  Spec.b "origins.parseScheme|str[:i]|!(len(str) == 0 || !isLowerAlpha(str[0]))",
  Spec.b "origins.parseScheme|str[i:]|!(len(str) == 0 || !isLowerAlpha(str[0]))",
  Spec.b "origins.parseScheme|str[i]|!(len(str) == 0 || !isLowerAlpha(str[0])) ; for i < end",
  Spec.b "origins.splitAtCommonSuffix|a[:len(a)-len(s)+i]|",
  Spec.b "origins.splitAtCommonSuffix|b[:len(b)-len(s)+i]|",
  Spec.b "origins.splitAtCommonSuffix|l[:len(s)]|",
  Spec.b "origins.splitAtCommonSuffix|l[i]|0 <= i",
  Spec.b "origins.splitAtCommonSuffix|l[len(l)-len(s):]|",
  Spec.b "origins.splitAtCommonSuffix|s[i:]|",
  Spec.b "origins.splitAtCommonSuffix|s[i]|0 <= i",
  Spec.b "origins.upsertEdge|n.children[i]|!(!found)",
  Spec.b "origins.upsertEdge|n.children[i]|!(!found)",
  Spec.b "origins.upsertEdge|n.children[i]|!found",
  Spec.b "util.Contains|as[c/32]|",
  Spec.b "util.IndexAfter|set.elems[start:]|!(set.maxLen < uint(len(e)))",
  Spec.b "util.MakeASCIISet|as[c/32]|i := range len(chars)",
  Spec.b "util.MakeASCIISet|chars[i]|i := range len(chars)"
]

/-- **C17 (sites).** The code indexes and slices exactly at the audited sites, each under exactly the audited
dominating conditions (`pkg.func|expression|guards`: left operands of the `&&`/`||` chains the expression is a right
operand of, enclosing `if`/`for`/`range`/`case` conditions, negations of earlier leave-guards): a new or changed index
expression, and a dropped, weakened or reordered guard, break this obligation. -/
theorem C17_sites : Facts.cors_indexSites = auditedSites :=
  Spec.Spelt.eq_of (by repeat constructor) (by decide +kernel)

/-! ### P8. The hand-indexing functions, at index level

`Model/Ix.lean` transliterates the functions of /repo that index and slice by hand, statement by
statement, with `int` counters and Go's *checked* `s[i]`, `s[lo:hi]` (`.error ()` = run-time panic; running out of
loop fuel is an error too).  Each theorem below says, for **every** input: the program returns `.ok` — no index or
slice expression is ever out of range and every loop ends — and what it returns is what the list-level model (the
one the other properties are proved about and the correspondence check runs against the code) returns. -/

theorem C17_ix_parseScheme (str : Bytes) : Ix.parseScheme str = .ok (Lex.parseScheme str) := Ix.parseScheme_refines str
/-- **P8 (parsePort).** Includes the bounds-check hoist `_ = str[i:end]`. -/
theorem C17_ix_parsePort (str : Bytes) : Ix.parsePort str = .ok (Lex.parsePort str) := Ix.parsePort_refines str
/-- **P8 (fastParseHost).** Includes the short-circuit order `len(str) >= minIPv6HostLen && str[0] == '['`. -/
theorem C17_ix_fastParseHost (str : Bytes) : Ix.fastParseHost str = .ok (Lex.fastParseHost str) := Ix.fastParseHost_refines str
theorem C17_ix_lastByte (str : Bytes) : Ix.lastByte str = .ok str.getLast? := Ix.lastByte_refines str
/-- **P8 (splitAtCommonSuffix).** The loop runs `i` down to −1; the list-level model works on reversed strings. -/
theorem C17_ix_splitAtCommonSuffix (a b : Bytes) :
    Ix.splitAtCommonSuffix a b = .ok ((Node.splitCommon a.reverse b.reverse).1.reverse,
      (Node.splitCommon a.reverse b.reverse).2.1.reverse, (Node.splitCommon a.reverse b.reverse).2.2.reverse) :=
  Ix.splitAtCommonSuffix_refines a b
/-- **P8 (TrimOWS).** With `trimRightOWS` and `trimLeftOWS`, which it calls. -/
theorem C17_ix_trimOWS (s : Bytes) (n : Nat) : Ix.trimOWS s n = .ok (Headers.trimOWS s n) := Ix.trimOWS_refines s n
theorem C17_ix_cutAtComma (str : Bytes) (n : Nat) : Ix.cutAtComma str n = .ok (Headers.cutAtComma str n) := Ix.cutAtComma_refines str n

/-- **P8 (insert).** The generic slice insertion of radix.go (`append`, overlapping `copy`, `s[i] = v`) with
`0 ≤ i ≤ len(s)` — the range of the position `slices.BinarySearch` returns — stays in range and inserts at `i`. -/
theorem C17_ix_insert {α : Type} [Inhabited α] (s : List α) (i : Nat) (h : i ≤ s.length) (v : α) :
    Ix.insertG s (i : Int) v = .ok (s.take i ++ v :: s.drop i) := Ix.insertG_refines s i h v
theorem C17_ix_first (v : Option (List Bytes)) :
    Ix.first v = .ok (match v with | some (x :: _) => some (x, [x]) | _ => none) := Ix.first_refines v
/-- **P8 (ASCIISet).** The `[8]uint32` bit set: `MakeASCIISet(chars)` never indexes the array out of range, and
for every byte `c`, `Contains(c)` neither does nor answers anything but "c occurs in chars" — the list membership
by which the model represents every byte class of the lexers (`Cors.asciiContains` on the regenerated tables). -/
theorem C17_ix_asciiSet (chars : Bytes) (hb : ∀ x ∈ chars, x < 256) :
    ∃ as, Ix.makeASCIISet chars Ix.zero8 = .ok as ∧ ∀ c, c < 256 → Ix.asciiContains as c = .ok (asciiContains chars c) :=
  Ix.asciiSet_refines chars hb

/-- **P8 (Check, IndexAfter).** The whole of `headers.Check` — the function that reads the attacker-controlled
`Access-Control-Request-Headers` lines — at index level: `cutAtComma`, `TrimOWS` and `IndexAfter`'s
`set.elems[start:]` stay in range on every set and every list of lines (`start ≤ Size` is an invariant of the loop,
by P3), every loop ends, and the verdict is the list-level model's (the one C02 and C14 are proved about). -/
theorem C17_ix_check (set : SortedSet) (acrhs : List Bytes) : Ix.check set acrhs = .ok (Headers.check set acrhs) :=
  Ix.check_refines set acrhs

/-- **P8 (Parse).** `origins.Parse` composed of the index-level lexers. -/
theorem C17_ix_parse (str : Bytes) : Ix.parse str = .ok (Lex.parse str) := Ix.parse_refines str
/-- **P8 (Tree.Contains, node.contains).** The look-up loop on the parallel slices of the nodes
(`n.edges`/`n.children`, `n.schemes`/`n.ports`, the position being where `slices.BinarySearch` finds the label resp.
the scheme): `n.children[i]`, `n.ports[i]`, `lastByte`, `splitAtCommonSuffix` stay in range on **every** tree value
of the model, the loop ends within depth-of-the-tree iterations, and the answer is `Tree.contains`.  `Ix.treeLoop` runs
on the list-level `Node`: the parallel slices are the two projections of one list of pairs, so "equal lengths" is built
into the representation here; P9 has them as statements on the five Go fields. -/
theorem C17_ix_treeContains (t : Node) (o : Origin) : Ix.treeContains t o = .ok (Tree.contains t o) :=
  Ix.treeContains_refines t o
/-- **P8 (request path).** For every tree and every byte string sent as `Origin`: `Parse` followed by
`Tree.Contains` never indexes out of range, always ends, and decides what the list-level model decides. -/
theorem C17_ix_originAllowed (t : Node) (str : Bytes) :
    Ix.originAllowed t str = .ok (match Lex.parse str with | none => false | some o => Tree.contains t o) :=
  Ix.originAllowed_refines t str

/-! ### P9. The configuration-time half of the radix tree, at index level (Model/IxTree.lean)

A node keeps its five fields as in Go (`Ix.INode`: `suf`, `edges`, `children`, `schemes`, `ports`), so the two
invariants the doc comment of `origins.node` states — `len(edges) == len(children)`, `len(schemes) == len(ports)` —
are statements (`Ix.WFI`) instead of being built into the representation.  `Ix.conc n` is the slice representation
of the list-level tree `n`; it has both invariants by construction (`C17_node_lengths`).  Each theorem says: run on
`conc n`, the index-level program, which works on the five fields one by one, returns `.ok` (no index or slice
expression out of range, every loop ends) of the slice representation of the list-level result. -/

/-- **P9 (node.add).** `n.ports[i]`, `n.ports[i] = ports`, both `insert`s and `deleteSameSign`'s `s[i:]` / `s[:i]`. -/
theorem C17_ix_add (S : List (Bytes × List Int)) (scheme : Bytes) (port : Int) (wild : Bool) :
    Ix.addI (S.map Prod.fst) (S.map Prod.snd) scheme port wild =
      .ok ((Node.addPort S scheme port wild).map Prod.fst, (Node.addPort S scheme port wild).map Prod.snd) :=
  Ix.addI_refines S scheme port wild
/-- **P9 (deleteSameSign).** For every slice, sorted or not. -/
theorem C17_ix_deleteSameSign (s : List Int) (v : Int) : Ix.deleteSameSignI s v = .ok (Node.deleteSameSign s v) :=
  Ix.deleteSameSignI_refines s v
/-- **P9 (node.upsertEdge).** Both `insert`s, `n.children[i] = child` and the returned `&n.children[i]`. -/
theorem C17_ix_upsertEdge (K : List (Nat × Node)) (label : Nat) (child : Node) :
    Ix.upsertEdgeI (K.map Prod.fst) (K.map (fun e => Ix.conc e.2)) label (Ix.conc child) =
      .ok ((Node.upsert label child K).map Prod.fst, (Node.upsert label child K).map (fun e => Ix.conc e.2),
        Ix.lowerBound Ix.natLt label (K.map Prod.fst)) :=
  Ix.upsertEdgeI_refines K label child
/-- **P9 (Tree.Insert).** For every tree and every pattern whose host value is not empty (P1): `s[0]`, `s[1:]`,
`n.children[i]`, `lastByte`, `splitAtCommonSuffix`, `add`, `upsertEdge` never go out of range, and the loop ends
after at most depth-of-the-tree iterations. -/
theorem C17_ix_treeInsert (t : Node) (p : Pattern) (h : p.value ≠ []) :
    Ix.treeInsert (Ix.conc t) p = .ok (Ix.conc (Tree.insert t p)) := Ix.treeInsert_refines t p h
/-- **P9 (building the tree of a configuration).** Inserting, from the zero `Tree`, any list of patterns that
`ParsePattern` returned (for any answers of the IDNA / public-suffix oracles) never panics, yields the slice
representation of the list-level tree (the one C01 is proved about), and that tree satisfies both length invariants
at every node. -/
theorem C17_ix_treeBuild (ext : Ext) (ps : List Pattern) (h : ∀ p ∈ ps, ∃ s, parsePattern ext s = .ok p) :
    Ix.buildI ps Ix.INode.zero = .ok (Ix.conc (ps.foldl Tree.insert Node.empty)) ∧
    Ix.WFI (Ix.conc (ps.foldl Tree.insert Node.empty)) := by
  refine ⟨?_, Ix.WFI_conc _⟩
  rw [← Ix.conc_empty]
  apply Ix.buildI_refines
  intro p hp
  obtain ⟨s, hs⟩ := h p hp
  exact (C17_value_nonempty ext s p hs).1
/-- **P9 (the length invariants).** Every `conc t` has `len(edges) == len(children)` and `len(schemes) == len(ports)` at
every node, by construction: `conc` unzips one list of pairs.  That the programs of the code stay among such values is
what `C17_ix_add`, `C17_ix_upsertEdge`, `C17_ix_treeInsert` and `C17_ix_treeBuild` say. -/
theorem C17_node_lengths (t : Node) : Ix.WFI (Ix.conc t) := Ix.WFI_conc t
/-- **P9 (node.elems, Tree.Elems).** `n.schemes[i]` for `i` ranging over `n.ports`, `n.children[i]`; the recursion ends. -/
theorem C17_ix_treeElems (t : Node) : Ix.treeElems (Ix.conc t) = .ok (Tree.elems t) := Ix.treeElems_refines t

/-- **P9 (parseHostPattern, hostOnly).** For every input: `hostOnly`'s `hp.Value[len(subdomainWildcard)+1:]` (the two bytes
`peekKind` saw) and the trim `pattern.Value[:end]` (the host `fastParseHost` returns is never longer than its input) are in range. -/
theorem C17_ix_parseHostPattern (ext : Ext) (str : Bytes) :
    Ix.parseHostPatternI ext str = .ok (parseHostPattern ext str) := Ix.parseHostPatternI_refines ext str
/-- **P9 (hostOnly on accepted patterns).** `IsDeemedInsecure` and `HostIsEffectiveTLD` call `hostOnly` on patterns that
`ParsePattern` returned: a subdomains pattern is `*.` + a non-empty base (P1), so the slice is in range. -/
theorem C17_ix_hostOnly (ext : Ext) (s : Bytes) (p : Pattern) (h : parsePattern ext s = .ok p) :
    Ix.hostOnlyI p.value p.kind = .ok (hostOnly p.value p.kind) := by
  apply Ix.hostOnlyI_refines
  intro hk
  obtain ⟨base, hv, _⟩ := (C17_value_nonempty ext s p h).2 hk
  rw [hv]; simp
/-- **P9 (newConfig).** `icfg.acma[0]` under `len(icfg.acma) > 0`. -/
theorem C17_ix_acma (acma : List Bytes) : Ix.acmaHead acma = .ok acma.head? := Ix.acmaHead_refines acma

/-- Not vacuous: on slices that violate the invariants the checked programs do report the panic. -/
example : Ix.elemsSchemes [] [] [[0]] 0 = .error () := by rfl
example : Ix.nodeContainsI [[104]] [] [104] 0 false = .error () := by rfl
example : Ix.treeInsert Ix.INode.zero { (default : Pattern) with value := [] } = .error () := by rfl

/-- The checked operations do report what Go would panic on (the theorems above are not vacuous): reading past
the end, an inverted slice, `parseScheme` without its `len(str) == 0 ||` guard, `lastByte` without its guard. -/
example : Ix.idx [1, 2, 3] 3 = .error () := by rfl
example : Ix.slice [1, 2, 3] 2 1 = .error () := by rfl
example : Ix.slice [1, 2, 3] 1 4 = .error () := by rfl
example : (Ix.idx [] 0 >>= fun c => pure (Lex.isLowerAlpha c) : Ix.Chk Bool) = .error () := by rfl
example : Ix.idx [] (Ix.len [] - 1) = .error () := by rfl
example : Ix.insertG [1, 2, 3] 4 (9 : Nat) = .error () := by rfl
example : Ix.asciiContains [0, 0, 0, 0, 0, 0, 0] 255 = .error () := by rfl
example : Ix.indexAfter { elems := [[97]], maxLen := 1 } 1 [97] = .error () := by rfl
example : Ix.parseScheme (Spec.b "https://a") = .ok (some (Spec.b "https", Spec.b "://a")) := by
  repeat rw [Spec.b_ofList]
  rfl
example : Ix.splitAtCommonSuffix (Spec.b "foo.example.com") (Spec.b "bar.example.com")
    = .ok (Spec.b "foo", Spec.b "bar", Spec.b ".example.com") := by
  repeat rw [Spec.b_ofList]
  rfl

/-- Fingerprints (SHA-256, first 12 bytes, computed by harness/extract on every run) of the text of the functions
`Model/Ix.lean` and `Model/IxTree.lean` transliterate — signature and body, comments dropped, white space normalised.
`newConfig` is not among them (of it only the site `icfg.acma[0]` with its guard is pinned, by `C17_sites`); `peekKind`,
which indexes nothing, is: `Ix.parseHostPatternI` calls the list-level `peekKind`.  The texts the transliteration was
written from (Gen/Facts.lean carries today's texts in the comment of `cors_ixBodies`):

  * `origins.parseScheme|func(str string) (string, string, bool) { if len(str) == 0 || !isLowerAlpha(str[0]) { return "", str, false } i := 1 for end := min(maxSchemeLen, len(str)); i < end; i++ { if !isSubsequentSchemeByte(str[i]) { break } } return str[:i], str[i:], true }`
  * `origins.parsePort|func(str string) (int, string, bool) { const base = 10 if len(str) == 0 || !isNonZeroDigit(str[0]) { return 0, str, false } port := intFromDigit(str[0]) i := 1 end := min(len(str), maxPortLen) _ = str[i:end] for ; i < end; i++ { if !isDigit(str[i]) { break } port = base*port + intFromDigit(str[i]) } if port < 0 || maxUint16 < port { return 0, str, false } return port, str[i:], true }`
  * `origins.fastParseHost|func(str string) (Host, string, bool) { const ( minIPv6HostLen = len("[::]") maxIPv6HostLen = len("[1111:1111:1111:1111:1111:1111:1111:1111]") ) if len(str) >= minIPv6HostLen && str[0] == '[' { end := strings.IndexByte(str, ']') if end == -1 { return zeroHost, str, false } host := Host{ Value: str[1:end], AssumeIP: true, } return host, str[end+1:], true } if len(str) == 0 || str[0] == labelSep { return zeroHost, str, false } var ( previousByteWasLabelSep bool assumeIPv4 bool i int ) for ; i < len(str); i++ { if str[i] == labelSep { if previousByteWasLabelSep { return zeroHost, "", false } previousByteWasLabelSep = true } else if isDigit(str[i]) { if previousByteWasLabelSep || i == 0 { assumeIPv4 = true } previousByteWasLabelSep = false } else if isASCIILabelByte(str[i]) { if previousByteWasLabelSep { assumeIPv4 = false } previousByteWasLabelSep = false } else { break } } host := Host{ Value: str[:i], AssumeIP: assumeIPv4, } return host, str[i:], true }`
  * `origins.lastByte|func(str string) (byte, bool) { if len(str) == 0 { return 0, false } return str[len(str)-1], true }`
  * `origins.splitAtCommonSuffix|func(a, b string) (string, string, string) { s, l := a, b if len(l) < len(s) { s, l = l, s } l = l[len(l)-len(s):] _ = l[:len(s)] i := len(s) - 1 for ; 0 <= i && s[i] == l[i]; i-- { } i++ return a[:len(a)-len(s)+i], b[:len(b)-len(s)+i], s[i:] }`
  * `headers.TrimOWS|func(s string, n int) (trimmed string, ok bool) { if s == "" { return s, true } trimmed, ok = trimRightOWS(s, n) if !ok { return s, false } trimmed, ok = trimLeftOWS(trimmed, n) if !ok { return s, false } return trimmed, true }`
  * `headers.trimLeftOWS|func(s string, n int) (string, bool) { sCopy := s var i int for len(s) > 0 { if i > n { return sCopy, false } if !isOWS(s[0]) { break } s = s[1:] i++ } return s, true }`
  * `headers.trimRightOWS|func(s string, n int) (string, bool) { sCopy := s var i int for len(s) > 0 { if i > n { return sCopy, false } if !isOWS(s[len(s)-1]) { break } s = s[:len(s)-1] i++ } return s, true }`
  * `headers.cutAtComma|func(str string, n uint) (before, after string, found bool) { end := int(min(uint(len(str)), n)) if i := strings.IndexByte(str[:end], ','); i >= 0 { after = str[i+1:] return str[:i], after, true } return str, "", false }`
  * `headers.First|func(hdrs http.Header, k string) (string, []string, bool) { v, found := hdrs[k] if !found || len(v) == 0 { return "", nil, false } return v[0], v[:1], true }`
  * `origins.insert|func[T any](s []T, i int, v T) []T { var dummy T s = append(s, dummy) copy(s[i+1:], s[i:]) s[i] = v return s }`
  * `util.MakeASCIISet|func(chars string) ASCIISet { var as ASCIISet for i := range len(chars) { c := chars[i] as[c/32] |= 1 << (c % 32) } return as }`
  * `util.(*ASCIISet).Contains|func(c byte) bool { return (as[c/32] & (1 << (c % 32))) != 0 }`
  * `headers.Check|func(set util.SortedSet, acrhs []string) bool { maxLen := MaxOWSBytes + set.MaxLen() + MaxOWSBytes + 1 var ( posOfLastNameSeen = -1 name string commaFound bool emptyElements int ok bool ) for _, acrh := range acrhs { for { name, acrh, commaFound = cutAtComma(acrh, maxLen) name, ok = TrimOWS(name, MaxOWSBytes) if !ok { return false } if name == "" { emptyElements++ if emptyElements > MaxEmptyElements { return false } if !commaFound { break } continue } i := set.IndexAfter(posOfLastNameSeen, name) if i < 0 { return false } posOfLastNameSeen = i if !commaFound { break } } } return true }`
  * `util.(SortedSet).IndexAfter|func(n int, e string) int { if set.maxLen < uint(len(e)) { return -1 } start := n + 1 i, found := slices.BinarySearch(set.elems[start:], e) if !found { return -1 } return start + i }`
  * `origins.Parse|func(str string) (Origin, bool) { const maxOriginLen = maxSchemeLen + len(schemeHostSep) + maxHostPortLen + 1 if len(str) > maxOriginLen { return zeroOrigin, false } scheme, str, ok := parseScheme(str) if !ok { return zeroOrigin, false } str, ok = strings.CutPrefix(str, schemeHostSep) if !ok { return zeroOrigin, false } host, str, ok := fastParseHost(str) if !ok { return zeroOrigin, false } var port int if len(str) > 0 { str, ok = strings.CutPrefix(str, string(hostPortSep)) if !ok { return zeroOrigin, false } port, str, ok = parsePort(str) if !ok || str != "" { return zeroOrigin, false } } o := Origin{ Scheme: scheme, Host: host, Port: port, } return o, true }`
  * `origins.(*Tree).Contains|func(o *Origin) bool { host := o.Host.Value n := &t.root for { label, ok := lastByte(host) if !ok { return n.contains(o.Scheme, o.Port, false) } if n.contains(o.Scheme, o.Port, true) { return true } i, found := slices.BinarySearch(n.edges, label) if !found { return false } n = &n.children[i] prefixOfHost, _, suf := splitAtCommonSuffix(host, n.suf) if len(suf) != len(n.suf) { return false } host = prefixOfHost } }`
  * `origins.(*node).contains|func(scheme string, port int, wildcardSubs bool) (found bool) { wildcardPort := wildcardPort if wildcardSubs { port -= portOffset wildcardPort -= portOffset } i, found := slices.BinarySearch(n.schemes, scheme) if !found { return } ports := n.ports[i] _, found = slices.BinarySearch(ports, port) if found { return } _, found = slices.BinarySearch(ports, wildcardPort) return }`
  * `origins.(*Tree).Insert|func(p *Pattern) { s := p.HostPattern.Value var wildcardSubs bool if s[0] == '*' { wildcardSubs = true s = s[1:] } n := &t.root for { labelToChild, ok := lastByte(s) if !ok { n.add(p.Scheme, p.Port, wildcardSubs) return } if n.contains(p.Scheme, p.Port, true) { return } i, found := slices.BinarySearch(n.edges, labelToChild) if !found { child := node{suf: s} child.add(p.Scheme, p.Port, wildcardSubs) n.upsertEdge(labelToChild, child) return } child := &n.children[i] prefixOfS, prefixOfChildSuf, suf := splitAtCommonSuffix(s, child.suf) labelToGrandChild1, ok := lastByte(prefixOfChildSuf) if !ok { s = prefixOfS n = child continue } grandChild1 := node{ suf: prefixOfChildSuf, edges: child.edges, children: child.children, schemes: child.schemes, ports: child.ports, } child = n.upsertEdge(labelToChild, node{suf: suf}) child.upsertEdge(labelToGrandChild1, grandChild1) labelToGrandChild2, ok := lastByte(prefixOfS) if !ok { child.add(p.Scheme, p.Port, wildcardSubs) return } grandChild2 := node{suf: prefixOfS} grandChild2.add(p.Scheme, p.Port, wildcardSubs) child.upsertEdge(labelToGrandChild2, grandChild2) return } }`
  * `origins.(*node).add|func(scheme string, port int, wildcardSubs bool) { wildcardPort := wildcardPort if wildcardSubs { port -= portOffset wildcardPort -= portOffset } if n.contains(scheme, port, wildcardSubs) { return } i, found := slices.BinarySearch(n.schemes, scheme) if !found { n.schemes = insert(n.schemes, i, scheme) n.ports = insert(n.ports, i, []int{port}) return } ports := n.ports[i] if port == wildcardPort { ports = deleteSameSign(ports, port) } ports = append(ports, port) slices.Sort(ports) n.ports[i] = ports }`
  * `origins.(*node).upsertEdge|func(label byte, child node) *node { i, found := slices.BinarySearch(n.edges, label) if !found { n.edges = insert(n.edges, i, label) n.children = insert(n.children, i, child) return &n.children[i] } n.children[i] = child return &n.children[i] }`
  * `origins.deleteSameSign|func(s []int, v int) []int { i, _ := slices.BinarySearch(s, 0) if v < 0 { return s[i:] } return s[:i] }`
  * `origins.(*node).elems|func(dst *[]string, suf string) { suf = n.suf + suf host := suf if strings.IndexByte(host, hostPortSep) >= 0 { host = "[" + host + "]" } for i, ports := range n.ports { scheme := n.schemes[i] for _, port := range ports { var maybeWildcard string if port < 0 { maybeWildcard = subdomainWildcard port += portOffset } var s string switch port { case 0: s = scheme + schemeHostSep + maybeWildcard + host case wildcardPort: s = scheme + schemeHostSep + maybeWildcard + host + string(hostPortSep) + portWildcard default: s = scheme + schemeHostSep + maybeWildcard + host + string(hostPortSep) + strconv.Itoa(port) } *dst = append(*dst, s) } } for i := range n.children { n.children[i].elems(dst, suf) } }`
  * `origins.(*Tree).Elems|func() []string { var res []string t.root.elems(&res, "") slices.Sort(res) return res }`
  * `origins.parseHostPattern|func(str, full string) (HostPattern, string, error) { pattern := HostPattern{ Value: str, Kind: peekKind(str), } host, str, ok := fastParseHost(pattern.hostOnly()) if !ok { err := &cfgerrors.UnacceptableOriginPatternError{ Value: full, Reason: "invalid", } return zeroHostPattern, str, err } if pattern.Kind == PatternKindSubdomains { if len(host.Value) > maxHostLen-2 { err := &cfgerrors.UnacceptableOriginPatternError{ Value: full, Reason: "invalid", } return zeroHostPattern, str, err } if host.AssumeIP { err := &cfgerrors.UnacceptableOriginPatternError{ Value: full, Reason: "invalid", } return zeroHostPattern, str, err } } end := len(host.Value) if pattern.Kind == PatternKindSubdomains { end += len(subdomainWildcard) + 1 } pattern.Value = pattern.Value[:end] if host.AssumeIP { ip, err := netip.ParseAddr(host.Value) if err != nil { err := &cfgerrors.UnacceptableOriginPatternError{ Value: full, Reason: "invalid", } return zeroHostPattern, str, err } if ip.Zone() != "" { err := &cfgerrors.UnacceptableOriginPatternError{ Value: full, Reason: "invalid", } return zeroHostPattern, str, err } if ip.Is4In6() { err := &cfgerrors.UnacceptableOriginPatternError{ Value: full, Reason: "prohibited", } return zeroHostPattern, str, err } ipStr := ip.String() if ipStr != host.Value { err := &cfgerrors.UnacceptableOriginPatternError{ Value: full, Reason: "prohibited", } return zeroHostPattern, str, err } if ip.IsLoopback() { pattern.Kind = PatternKindLoopbackIP } else { pattern.Kind = PatternKindNonLoopbackIP } pattern.Value = ipStr return pattern, str, nil } _, err := profile.ToASCII(host.Value) if err != nil { err := &cfgerrors.UnacceptableOriginPatternError{ Value: full, Reason: "prohibited", } return zeroHostPattern, str, err } return pattern, str, nil }`
  * `origins.(*HostPattern).hostOnly|func() string { if hp.Kind == PatternKindSubdomains { return hp.Value[len(subdomainWildcard)+1:] } return hp.Value }`
  * `origins.peekKind|func(str string) PatternKind { const wildcardSeq = subdomainWildcard + string(labelSep) if strings.HasPrefix(str, wildcardSeq) { return PatternKindSubdomains } return PatternKindDomain }`
-/
def auditedBodies : List Bytes := [
  Spec.b "origins.parseScheme|04a7c4ffcf12f0724767ced4",
  Spec.b "origins.parsePort|05f7dd45c90cb08d3d71a57d",
  Spec.b "origins.fastParseHost|4af731bf8856ead2a1cfa7d6",
  Spec.b "origins.lastByte|d3ca513283c93e325e82dc44",
  Spec.b "origins.splitAtCommonSuffix|62e5792622b0cc8e5851d04d",
  Spec.b "headers.TrimOWS|da7dfb15aa3656dbbee9665f",
  Spec.b "headers.trimLeftOWS|7328e23ec641f7df09a1aa2f",
  Spec.b "headers.trimRightOWS|96fe99d0132768759e70ca53",
  Spec.b "headers.cutAtComma|dfcfd5fceca561452ab19331",
  Spec.b "headers.First|42c035fb58f9353926d95d4e",
  Spec.b "origins.insert|fb4213f2b7d6db6f6915e660",
  Spec.b "util.MakeASCIISet|32a0ffb8e82102331e8343b7",
  Spec.b "util.(*ASCIISet).Contains|d91cdec9740b2a4dc9133158",
  Spec.b "headers.Check|bd2865f1784a37ea10b3264f",
  Spec.b "util.(SortedSet).IndexAfter|678117c59beca02b1cce59bc",
  Spec.b "origins.Parse|08f500fa72f0663bc058fa76",
  Spec.b "origins.(*Tree).Contains|77792374ce1547a86a9c22a6",
  Spec.b "origins.(*node).contains|7c33deaa5f428dcb89cf28d9",
  Spec.b "origins.(*Tree).Insert|57f28c26e1a856b8b0878e58",
  Spec.b "origins.(*node).add|f1375b1d624227a291a589d4",
  Spec.b "origins.(*node).upsertEdge|6d2ec1d4f4cd6a7037f60795",
  Spec.b "origins.deleteSameSign|db1637adf0db2548322c8f8c",
  Spec.b "origins.(*node).elems|80a20c88e601c31687bce10e",
  Spec.b "origins.(*Tree).Elems|d5dd04a5b28151afd887304a",
  Spec.b "origins.parseHostPattern|335a7de3caddf4806c2efbd3",
  Spec.b "origins.(*HostPattern).hostOnly|ca60613108eb548d78ef30d1",
  Spec.b "origins.peekKind|46207a9076ebbaa14bcedcc3"
]

/-- **C17 (bodies).** The functions modelled at index level read exactly as the texts the transliteration was written
from: an edit of one of them breaks this obligation (and the check then searches for a failing input). -/
theorem C17_ix_bodies : Facts.cors_ixBodies = auditedBodies :=
  Spec.Spelt.eq_of (by repeat constructor) (by decide +kernel)

#print axioms C17_sites
#print axioms C17_value_nonempty
#print axioms C17_insert_key_nonempty
#print axioms C17_indexAfter_lt
#print axioms C17_cutAtComma_in_range
#print axioms C17_bracket_end
#print axioms C17_status_range
#print axioms C17_parsePort_hoist
#print axioms C17_ix_parseScheme
#print axioms C17_ix_parsePort
#print axioms C17_ix_fastParseHost
#print axioms C17_ix_lastByte
#print axioms C17_ix_splitAtCommonSuffix
#print axioms C17_ix_trimOWS
#print axioms C17_ix_cutAtComma
#print axioms C17_ix_insert
#print axioms C17_ix_first
#print axioms C17_ix_asciiSet
#print axioms C17_ix_check
#print axioms C17_ix_parse
#print axioms C17_ix_treeContains
#print axioms C17_ix_originAllowed
#print axioms C17_ix_bodies
#print axioms C17_ix_add
#print axioms C17_ix_deleteSameSign
#print axioms C17_ix_upsertEdge
#print axioms C17_ix_treeInsert
#print axioms C17_ix_treeBuild
#print axioms C17_node_lengths
#print axioms C17_ix_treeElems
#print axioms C17_ix_parseHostPattern
#print axioms C17_ix_hostOnly
#print axioms C17_ix_acma

end Cors
