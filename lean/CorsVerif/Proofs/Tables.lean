import CorsVerif.Spec.Fetch
import CorsVerif.Proofs.Literals
import CorsVerif.Proofs.Sets
/-
  The regenerated Go tables have exactly the members of the hand-written specification tables; a look-up
  in a set built with `NewSet` is list membership (`SortedSet.ofList_contains`), so the predicates of the
  Go packages `methods` and `headers` are membership in the specification's tables.
-/
namespace Cors
open Gen

def sameMembers (xs ys : List Bytes) : Bool := xs.all ys.contains && ys.all xs.contains

theorem contains_eq_of_sameMembers {xs ys : List Bytes} (h : sameMembers xs ys = true) (x : Bytes) : xs.contains x = ys.contains x := by
  simp only [sameMembers, Bool.and_eq_true, List.all_eq_true, List.contains_iff_mem] at h
  rw [Bool.eq_iff_iff, List.contains_iff_mem, List.contains_iff_mem]
  exact ⟨h.1 x, h.2 x⟩

/-- Against a table of `Spec.b "…"` the comparison is evaluated on the character codes (Proofs/Literals.lean). -/
theorem sameMembers_spelt {xs bs : List Bytes} {css} (h : Spec.Spelt css bs)
    (hx : sameMembers xs (css.map (·.map Char.toNat)) = true) : sameMembers xs bs = true := h.eq ▸ hx

theorem tbl_forbiddenReq : sameMembers Facts.headers_discreteForbiddenRequestHeaderNames Spec.forbiddenRequestHeaderNames = true :=
  sameMembers_spelt (by repeat constructor) (by decide)
theorem tbl_prohibitedReq : sameMembers Facts.headers_prohibitedRequestHeaderNames Spec.prohibitedRequestHeaderNames = true :=
  sameMembers_spelt (by repeat constructor) (by decide)
theorem tbl_forbiddenRes : sameMembers Facts.headers_forbiddenResponseHeaderNames Spec.forbiddenResponseHeaderNames = true :=
  sameMembers_spelt (by repeat constructor) (by decide)
theorem tbl_prohibitedRes : sameMembers Facts.headers_prohibitedResponseHeaderNames Spec.prohibitedResponseHeaderNames = true :=
  sameMembers_spelt (by repeat constructor) (by decide)
theorem tbl_safelistedRes : sameMembers Facts.headers_safelistedResponseHeaderNames Spec.safelistedResponseHeaderNames = true :=
  sameMembers_spelt (by repeat constructor) (by decide)
theorem tbl_forbiddenMethods : sameMembers Facts.methods_byteUppercasedForbiddenMethods Spec.forbiddenMethods = true :=
  sameMembers_spelt (by repeat constructor) (by decide)
theorem tbl_safelistedMethods : sameMembers Facts.methods_safelistedMethods Spec.safelistedMethods = true :=
  sameMembers_spelt (by repeat constructor) (by decide)
theorem tbl_normalizedMethods : sameMembers Facts.methods_browserNormalizedMethods Spec.normalizedMethods = true :=
  sameMembers_spelt (by repeat constructor) (by decide)

theorem SortedSet.contains_of_sameMembers {xs ys : List Bytes} (h : sameMembers xs ys = true) (x : Bytes) :
    (SortedSet.ofList xs).contains x = ys.contains x :=
  (SortedSet.ofList_contains xs x).trans (contains_eq_of_sameMembers h x)

theorem Methods.isForbidden_eq (n : Bytes) : Methods.isForbidden n = Spec.forbiddenMethods.contains n.upper :=
  SortedSet.contains_of_sameMembers tbl_forbiddenMethods n.upper

theorem Methods.isSafelisted_eq (n : Bytes) : Methods.isSafelisted n = Spec.safelistedMethods.contains n :=
  SortedSet.contains_of_sameMembers tbl_safelistedMethods n

theorem Methods.normalize_eq (n : Bytes) : Methods.normalize n = Spec.normalizeMethod n := by
  unfold Methods.normalize Spec.normalizeMethod
  simp only []
  rw [SortedSet.contains_of_sameMembers tbl_normalizedMethods]

theorem Headers.isForbiddenReq_eq (l : Bytes) :
    Headers.isForbiddenRequestHeaderName l =
      (Spec.forbiddenRequestHeaderNames.contains l || Spec.forbiddenRequestHeaderPrefixes.any (fun p => l.hasPrefix p)) := by
  have h1 : Headers.proxyDash = Spec.b "proxy-" := by decide
  have h2 : Headers.secDash = Spec.b "sec-" := by decide
  unfold Headers.isForbiddenRequestHeaderName Spec.forbiddenRequestHeaderPrefixes
  rw [SortedSet.contains_of_sameMembers tbl_forbiddenReq, Bool.or_assoc, h1, h2]
  simp

theorem Headers.isProhibitedReq_eq (l : Bytes) :
    Headers.isProhibitedRequestHeaderName l = Spec.prohibitedRequestHeaderNames.contains l :=
  SortedSet.contains_of_sameMembers tbl_prohibitedReq l

theorem Headers.isForbiddenRes_eq (l : Bytes) :
    Headers.isForbiddenResponseHeaderName l = Spec.forbiddenResponseHeaderNames.contains l :=
  SortedSet.contains_of_sameMembers tbl_forbiddenRes l

theorem Headers.isProhibitedRes_eq (l : Bytes) :
    Headers.isProhibitedResponseHeaderName l = Spec.prohibitedResponseHeaderNames.contains l :=
  SortedSet.contains_of_sameMembers tbl_prohibitedRes l

end Cors
