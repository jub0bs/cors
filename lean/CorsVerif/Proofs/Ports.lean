import CorsVerif.Model.Tree
import CorsVerif.Proofs.Order
/-
  The signed port coding of the radix tree (`node.add` / `node.contains`): the invariants of a port list
  and of a scheme table, and that `add` keeps them; a code stands for a port and a kind of entry
  (`decode_code`, `code_decode`).
-/
namespace Cors

namespace Node

def W : Int := 65536          -- wildcardPort
def O : Int := 65537          -- portOffset

theorem wildcardPort_eq : wildcardPort = 65536 := rfl
theorem portOffset_eq : portOffset = 65537 := rfl

/-- Sorted ascending (duplicates allowed, as the Go code produces them for wildcard-subdomain entries). -/
def SortedInts (l : List Int) : Prop := l.Pairwise (· ≤ ·)

structure PortsOK (l : List Int) : Prop where
  sorted : SortedInts l
  range : ∀ x ∈ l, -65537 ≤ x ∧ x ≤ 65536

theorem insertSorted_int_mem (c x : Int) (l : List Int) :
    x ∈ insertSorted (fun a b => decide (a < b)) c l ↔ x = c ∨ x ∈ l :=
  mem_insertSorted

theorem insertSorted_int_sorted (c : Int) (l : List Int) (h : SortedInts l) :
    SortedInts (insertSorted (fun a b => decide (a < b)) c l) :=
  insertSorted_pairwise h (fun _ _ h => Int.le_of_lt (by simpa using h)) (fun _ _ h => Int.not_lt.mp (by simpa using h))
    Int.le_trans

theorem deleteSameSign_sublist (l : List Int) (v : Int) : (deleteSameSign l v).Sublist l := by
  unfold deleteSameSign
  split
  · exact List.dropWhile_sublist _
  · exact List.takeWhile_sublist _

theorem deleteSameSign_ok (l : List Int) (v : Int) (h : PortsOK l) : PortsOK (deleteSameSign l v) :=
  ⟨h.sorted.sublist (deleteSameSign_sublist l v), fun x hx => h.range x ((deleteSameSign_sublist l v).subset hx)⟩

theorem PortsOK_nil : PortsOK [] := ⟨.nil, fun _ h => nomatch h⟩

/-- The port list `node.add` writes. -/
theorem insertPort_ok {ps : List Int} (h : PortsOK ps) (c : Int) (w : Bool) (hc : -65537 ≤ c ∧ c ≤ 65536) :
    PortsOK (insertSorted (fun a b => decide (a < b)) c (if w then deleteSameSign ps c else ps)) := by
  have h' : PortsOK (if w then deleteSameSign ps c else ps) := by
    split
    · exact deleteSameSign_ok _ _ h
    · exact h
  refine ⟨insertSorted_int_sorted _ _ h'.sorted, fun x hx => ?_⟩
  rcases (insertSorted_int_mem _ _ _).mp hx with rfl | hx
  · exact hc
  · exact h'.range x hx

structure SchemesOK (S : List (Bytes × List Int)) : Prop where
  keys : (S.map Prod.fst).Pairwise (fun a b => Bytes.lt a b = true)
  ports : ∀ e ∈ S, PortsOK e.2

theorem SchemesOK_nil : SchemesOK [] := ⟨List.Pairwise.nil, fun e he => by cases he⟩

theorem SchemesOK_tail {e : Bytes × List Int} {S : List (Bytes × List Int)} (h : SchemesOK (e :: S)) : SchemesOK S :=
  ⟨(List.pairwise_cons.mp h.keys).2, fun x hx => h.ports x (List.mem_cons_of_mem _ hx)⟩

theorem SchemesOK_cons {e : Bytes × List Int} {S : List (Bytes × List Int)} :
    SchemesOK (e :: S) ↔ (∀ x ∈ S, Bytes.lt e.1 x.1 = true) ∧ PortsOK e.2 ∧ SchemesOK S := by
  constructor
  · intro h
    have hk := List.pairwise_cons.mp h.keys
    exact ⟨fun x hx => hk.1 _ (List.mem_map_of_mem hx), h.ports e List.mem_cons_self, SchemesOK_tail h⟩
  · rintro ⟨h1, h2, h3⟩
    refine ⟨List.pairwise_cons.mpr ⟨fun k hk => ?_, h3.keys⟩, fun x hx => ?_⟩
    · obtain ⟨x, hx, rfl⟩ := List.mem_map.mp hk
      exact h1 x hx
    · rcases List.mem_cons.mp hx with rfl | hx
      · exact h2
      · exact h3.ports x hx

theorem lookup_mem {sch : Bytes} {S : List (Bytes × List Int)} {ps : List Int} (h : lookupScheme sch S = some ps) :
    (sch, ps) ∈ S := by
  fun_induction lookupScheme sch S with
  | case1 => cases h
  | case2 s qs rest heq =>
    obtain rfl : s = sch := by simpa using heq
    cases h; exact List.mem_cons_self
  | case3 s qs rest hne ih => exact List.mem_cons_of_mem _ (ih h)

theorem lookup_unique {S : List (Bytes × List Int)} (hS : SchemesOK S) {sch : Bytes} {ps : List Int}
    (hm : (sch, ps) ∈ S) : lookupScheme sch S = some ps := by
  induction S with
  | nil => cases hm
  | cons e rest ih =>
    obtain ⟨hlt, _, hrest⟩ := SchemesOK_cons.mp hS
    rw [lookupScheme]
    rcases List.mem_cons.mp hm with heq | hmem
    · cases heq; simp
    · -- the later keys are larger
      rw [if_neg (by simpa using Bytes.lt_ne (hlt _ hmem))]
      exact ih hrest hmem

/-- The new port list of `scheme` after `addScheme`. -/
def newPorts (S : List (Bytes × List Int)) (sch : Bytes) (c : Int) (w : Bool) : List Int :=
  let ps := (lookupScheme sch S).getD []
  insertSorted (fun a b => decide (a < b)) c (if w then deleteSameSign ps c else ps)

theorem newPorts_ok (S : List (Bytes × List Int)) (hS : SchemesOK S) (sch : Bytes) (c : Int) (w : Bool)
    (hc : -65537 ≤ c ∧ c ≤ 65536) : PortsOK (newPorts S sch c w) := by
  unfold newPorts
  refine insertPort_ok ?_ c w hc
  cases hl : lookupScheme sch S with
  | none => exact PortsOK_nil
  | some ps => exact hS.ports _ (lookup_mem hl)

theorem addScheme_keys (sch : Bytes) (c : Int) (w : Bool) (S : List (Bytes × List Int)) :
    ∀ e ∈ addScheme sch c w S, e.1 = sch ∨ ∃ e' ∈ S, e.1 = e'.1 := by
  intro e he
  -- the branches of `addScheme`: end of the table, scheme found, inserted in front of a larger key, go on
  fun_induction addScheme sch c w S with
  | case1 => exact Or.inl (by rw [List.mem_singleton.mp he])
  | case2 s ps rest heq =>
    rcases List.mem_cons.mp he with rfl | he
    · exact Or.inr ⟨(s, ps), List.mem_cons_self, rfl⟩
    · exact Or.inr ⟨e, List.mem_cons_of_mem _ he, rfl⟩
  | case3 s ps rest hne hlt =>
    rcases List.mem_cons.mp he with rfl | he
    · exact Or.inl rfl
    · exact Or.inr ⟨e, he, rfl⟩
  | case4 s ps rest hne hlt ih =>
    rcases List.mem_cons.mp he with rfl | he
    · exact Or.inr ⟨_, List.mem_cons_self, rfl⟩
    · exact (ih he).imp id fun ⟨e', he', h⟩ => ⟨e', List.mem_cons_of_mem _ he', h⟩

theorem addScheme_ok (S : List (Bytes × List Int)) (hS : SchemesOK S) (sch : Bytes) (c : Int) (w : Bool)
    (hc : -65537 ≤ c ∧ c ≤ 65536) : SchemesOK (addScheme sch c w S) := by
  have hnew : PortsOK [c] := insertPort_ok PortsOK_nil c false hc
  fun_induction addScheme sch c w S with
  | case1 => exact SchemesOK_cons.mpr ⟨fun _ h => (nomatch h), hnew, SchemesOK_nil⟩
  | case2 s ps rest heq =>
    -- found: only its port list changes
    obtain ⟨hlt, hps, hrest⟩ := SchemesOK_cons.mp hS
    exact SchemesOK_cons.mpr ⟨hlt, insertPort_ok hps c w hc, hrest⟩
  | case3 s ps rest hne h =>
    -- inserted in front of `s`: below `s`, hence below every later key
    obtain ⟨hlt, _, _⟩ := SchemesOK_cons.mp hS
    refine SchemesOK_cons.mpr ⟨fun x hx => ?_, hnew, hS⟩
    rcases List.mem_cons.mp hx with rfl | hx
    · exact h
    · exact Bytes.lt_trans h (hlt x hx)
  | case4 s ps rest hne h ih =>
    -- go on: `s` is below `sch`, and every key of the result is `sch` or a key of `rest`
    obtain ⟨hlt, hps, hrest⟩ := SchemesOK_cons.mp hS
    have hgt : Bytes.lt s sch = true := by
      rcases Bytes.lt_trichotomy sch s with h' | h' | h'
      · exact absurd h' h
      · exact absurd h'.symm (by simpa using hne)
      · exact h'
    refine SchemesOK_cons.mpr ⟨fun x hx => ?_, hps, ih hrest⟩
    rcases addScheme_keys sch c w rest x hx with h' | ⟨x', hx', h'⟩
    · rw [h']; exact hgt
    · rw [h']; exact hlt x' hx'

theorem code_false (p : Int) : code p false = p := by simp [code]
theorem code_true (p : Int) : code p true = p - 65537 := by simp [code, portOffset_eq]
theorem wildCode_false : wildCode false = 65536 := by simp [wildCode, wildcardPort_eq]
theorem wildCode_true : wildCode true = -1 := by simp [wildCode, wildcardPort_eq, portOffset_eq]

/-- The two searches of `node.contains` in the port list of its scheme. -/
def covers (ports : List Int) (p' : Int) (w' : Bool) : Bool :=
  ports.contains (code p' w') || ports.contains (wildCode w')

theorem containsPort_eq (S : List (Bytes × List Int)) (sch : Bytes) (p : Int) (w : Bool) :
    containsPort S sch p w = match lookupScheme sch S with
      | none => false
      | some ports => covers ports p w := rfl

theorem covers_iff (ports : List Int) (p' : Int) (w' : Bool) :
    covers ports p' w' = true ↔ code p' w' ∈ ports ∨ wildCode w' ∈ ports := by
  simp [covers]

theorem code_range (p : Int) (w : Bool) (hp : 0 ≤ p ∧ p ≤ 65536) : -65537 ≤ code p w ∧ code p w ≤ 65536 := by
  cases w
  · rw [code_false]; omega
  · rw [code_true]; omega

/-- A stored port code, decoded: the port and whether the entry is a wildcard-subdomains one. -/
def decodePort (c : Int) : Int := if c < 0 then c + 65537 else c
def decodeWild (c : Int) : Bool := decide (c < 0)

theorem decode_code {p : Int} (w : Bool) (hp : 0 ≤ p ∧ p ≤ 65536) :
    decodePort (code p w) = p ∧ decodeWild (code p w) = w := by
  cases w <;> simp [decodePort, decodeWild, code_true, code_false] <;> omega

/-- With `decode_code`: coding and decoding are inverse bijections between the ports `0 … 65536` of either kind
and the codes `-65537 … 65536`. -/
theorem code_decode (c : Int) : code (decodePort c) (decodeWild c) = c := by
  unfold decodePort decodeWild
  by_cases h : c < 0
  · rw [if_pos h, decide_eq_true h, code_true]; omega
  · rw [if_neg h, decide_eq_false h, code_false]

theorem wildCode_eq_code (w : Bool) : wildCode w = code 65536 w := rfl

/-- The two codes `node.contains` looks for, decoded: an entry of the kind asked for, with the port asked for
or the wildcard port. -/
theorem code_match {c p' : Int} {w : Bool} (hp' : 0 ≤ p' ∧ p' ≤ 65536) :
    (c = code p' w ∨ c = wildCode w) ↔ decodeWild c = w ∧ (decodePort c = p' ∨ decodePort c = 65536) := by
  constructor
  · rintro (rfl | rfl)
    · exact ⟨(decode_code w hp').2, Or.inl (decode_code w hp').1⟩
    · have := decode_code (p := 65536) w (by omega)
      exact ⟨this.2, Or.inr this.1⟩
  · rintro ⟨rfl, h | h⟩
    · exact Or.inl (by rw [← h, code_decode])
    · exact Or.inr (by rw [wildCode_eq_code, ← h, code_decode])

theorem addPort_ok (S : List (Bytes × List Int)) (hS : SchemesOK S) (sch : Bytes) (p : Int) (w : Bool)
    (hp : 0 ≤ p ∧ p ≤ 65536) : SchemesOK (addPort S sch p w) := by
  unfold addPort
  split
  · exact hS
  · exact addScheme_ok S hS sch _ _ (code_range p w hp)

theorem addScheme_ne_nil (sch : Bytes) (c : Int) (w : Bool) (S : List (Bytes × List Int)) : addScheme sch c w S ≠ [] := by
  fun_cases addScheme sch c w S <;> exact List.cons_ne_nil _ _

theorem containsPort_ne_nil {S : List (Bytes × List Int)} {sch : Bytes} {p : Int} {w : Bool}
    (h : containsPort S sch p w = true) : S ≠ [] := by
  rintro rfl; cases h

theorem addPort_ne_nil (S : List (Bytes × List Int)) (sch : Bytes) (p : Int) (w : Bool) : addPort S sch p w ≠ [] := by
  unfold addPort
  split
  · exact containsPort_ne_nil ‹_›
  · exact addScheme_ne_nil _ _ _ _

end Node
end Cors
