import CorsVerif.Proofs.Pipeline
import CorsVerif.Proofs.Handlers
import CorsVerif.Proofs.Accepted
import CorsVerif.Proofs.BrowserLists
import CorsVerif.Proofs.Tables
/-
  The browser's side of C02: CORS-preflight fetch and the CORS check evaluated on the responses of the model.
  Each of the browser's tests reads one or two response headers; each is evaluated once on the value the server
  decides for that header (`*_decided`) and once on its absence (`*_absent`).  A preflight response carries the value a
  step decided iff all steps up to it succeeded and the buffer was copied (`preflight_seen`, from
  `handleCORSPreflight_closed`), so the first failing condition leaves its own header out and the test that reads it
  fails, whatever the debug mode (`preflight_check`).  Throughout, no response header is set before the middleware
  runs (`HdrMap.empty`); `actual_check` and `preflight_seen` hold for every decision oracle, `preflight_check` for the
  model's own (`modelDec`: the header test needs `acrhOK` to be `Headers.check`).
-/
namespace Cors
open Gen Headers Serve Pipeline NamesNe
namespace Browser

def methodOK (i : Intent) (h : HdrMap) : Bool :=
  match extractList h Facts.headers_ACAM with
  | some methods => methods.contains (methodN i) || safelisted (methodN i) || (!i.creds && methods.contains Spec.star)
  | none => false

def headersOK (i : Intent) (h : HdrMap) : Bool :=
  match extractList h Facts.headers_ACAH with
  | some headerNames =>
    (!(unsafeNames i).contains Spec.authorization || (headerNames.map Bytes.lower).contains Spec.authorization)
    && (unsafeNames i).all (fun n => (headerNames.map Bytes.lower).contains n || (!i.creds && headerNames.contains Spec.star))
  | none => false

def pnaOK (i : Intent) (h : HdrMap) : Bool :=
  !i.pna || getHeader h Facts.headers_ACAPN == some Facts.headers_ValueTrue

theorem preflightPasses_split (i : Intent) (r : Resp) :
    preflightPasses i r =
      (corsCheck i r.hdrs && okStatus r.status && methodOK i r.hdrs && headersOK i r.hdrs && pnaOK i r.hdrs) := by
  unfold preflightPasses methodOK headersOK pnaOK
  cases extractList r.hdrs Facts.headers_ACAM <;> cases extractList r.hdrs Facts.headers_ACAH <;>
    simp [Bool.and_assoc]

theorem preflightRequest_origin (i : Intent) (lines : List Bytes) :
    (preflightRequest i lines).hdrs.first Facts.headers_Origin = some i.origin := rfl

theorem preflightRequest_acrm (i : Intent) (lines : List Bytes) :
    (preflightRequest i lines).hdrs.first Facts.headers_ACRM = some (methodN i) := rfl

theorem preflightRequest_acrh (i : Intent) (lines : List Bytes) :
    (preflightRequest i lines).hdrs Facts.headers_ACRH = if (unsafeNames i).isEmpty then none else some lines := rfl

theorem preflightRequest_acrpn (i : Intent) (lines : List Bytes) :
    (preflightRequest i lines).hdrs.first Facts.headers_ACRPN = if i.pna then some Facts.headers_ValueTrue else none := by
  unfold preflightRequest HdrMap.first
  cases i.pna <;> rfl

theorem actualRequest_origin (i : Intent) : (actualRequest i).hdrs.first Facts.headers_Origin = some i.origin := rfl

theorem actualRequest_acrm (i : Intent) : (actualRequest i).hdrs.first Facts.headers_ACRM = none := rfl

theorem serve_preflight (icfg : ICfg) (dbg : Bool) (i : Intent) (lines : List Bytes) :
    serve icfg dbg (preflightRequest i lines) HdrMap.empty =
      handleCORSPreflight (modelDec icfg) icfg HdrMap.empty (preflightRequest i lines).hdrs i.origin (methodN i) dbg :=
  serveDec_preflight_of rfl (preflightRequest_origin i lines) (preflightRequest_acrm i lines) ..

theorem originCond_request (dec : Dec) (icfg : ICfg) (i : Intent) (hp : dec.parses i.origin = true) :
    originCond dec icfg i.origin = ((icfg.tree.isEmpty && !icfg.credentialed) || dec.allowed i.origin) := by
  unfold originCond
  rw [hp, Bool.true_and, Bool.and_comm]

theorem pnaCond_request (icfg : ICfg) (i : Intent) (lines : List Bytes) :
    pnaCond icfg (preflightRequest i lines).hdrs = (!i.pna || icfg.pna || icfg.pnaNoCors) := by
  unfold pnaCond
  rw [preflightRequest_acrpn]
  cases i.pna <;> simp

theorem star_eq : Spec.star = [42] := by decide
theorem auth_eq : Spec.authorization = Facts.headers_Authorization := by
  rw [Spec.authorization, Spec.b_ofList]
  decide

theorem getHeader_single (h : HdrMap) (name v : Bytes) (hh : h name = some [v]) : getHeader h name = some v := by
  unfold getHeader; rw [hh]; rfl

theorem getHeader_none (h : HdrMap) (name : Bytes) (hh : h name = none) : getHeader h name = none := by
  unfold getHeader; rw [hh]

theorem corsCheck_absent (i : Intent) (h : HdrMap) (hv : h Facts.headers_ACAO = none) : corsCheck i h = false := by
  unfold corsCheck
  rw [getHeader_none h _ hv]

theorem corsCheck_wildcard (i : Intent) (h : HdrMap) (hv : h Facts.headers_ACAO = some [[42]]) (hne : i.origin ≠ Spec.star) :
    corsCheck i h = !i.creds := by
  have e : (([42] : Bytes) != i.origin) = true := by rw [← star_eq]; simpa using hne.symm
  unfold corsCheck
  rw [getHeader_single h _ _ hv]
  simp only [star_eq, e]
  cases i.creds <;> rfl

theorem corsCheck_origin (i : Intent) (h : HdrMap) (hv : h Facts.headers_ACAO = some [i.origin]) (hne : i.origin ≠ Spec.star) :
    corsCheck i h = (!i.creds || getHeader h Facts.headers_ACAC == some Facts.headers_ValueTrue) := by
  have e : (i.origin == Spec.star) = false := by simpa using hne
  unfold corsCheck
  rw [getHeader_single h _ _ hv]
  cases i.creds <;> simp [e]

theorem corsCheck_of_decision {dec : Dec} {icfg : ICfg} {r : Req} {i : Intent} {h : HdrMap} {a c : Option (List Bytes)}
    (hd : OriginDecision dec icfg r a c) (hr : r.hdrs.first Facts.headers_Origin = some i.origin)
    (hao : h Facts.headers_ACAO = a) (hac : h Facts.headers_ACAC = c) (hne : i.origin ≠ Spec.star) :
    corsCheck i h = (a.isSome && (!i.creds || icfg.credentialed)) := by
  cases hd with
  | nothing => exact corsCheck_absent i h hao
  | star _ hc => rw [corsCheck_wildcard i h hao hne, hc]; simp
  | echo o ho _ =>
    obtain rfl : o = i.origin := Option.some.inj (ho.symm.trans hr)
    rw [corsCheck_origin i h hao hne]
    cases hcr : icfg.credentialed <;> rw [hcr] at hac
    · rw [getHeader_none h _ hac]; rfl
    · rw [getHeader_single h _ Facts.headers_ValueTrue hac]; simp

theorem corsCheck_decided (dec : Dec) (icfg : ICfg) (i : Intent) (lines : List Bytes) (h : HdrMap)
    (hc : originCond dec icfg i.origin = true)
    (hao : h Facts.headers_ACAO = expACAO icfg i.origin) (hac : h Facts.headers_ACAC = expACAC icfg)
    (hne : i.origin ≠ Spec.star) : corsCheck i h = (!i.creds || icfg.credentialed) := by
  have ho := preflightRequest_origin i lines
  rw [corsCheck_of_decision (expACAO_decision ho hc) ho hao hac hne]
  unfold expACAO
  split <;> rfl

theorem safelisted_eq (m : Bytes) : safelisted m = Methods.isSafelisted m :=
  (Methods.isSafelisted_eq m).symm

def methodPermit (icfg : ICfg) (i : Intent) : Bool :=
  safelisted (methodN i) || icfg.allowAnyMethod || icfg.allowedMethods.contains (methodN i)

theorem methodPermit_eq (icfg : ICfg) (i : Intent) : methodPermit icfg i = methodCond icfg (methodN i) := by
  unfold methodPermit methodCond; rw [safelisted_eq]

theorem methodOK_decided (icfg : ICfg) (i : Intent) (h : HdrMap)
    (hv : h Facts.headers_ACAM = expACAM icfg (methodN i)) (hM : isValid (methodN i) = true)
    (hcred : (!i.creds || icfg.credentialed) = true) : methodOK i h = true := by
  unfold methodOK
  unfold expACAM at hv
  by_cases hs : Methods.isSafelisted (methodN i) = true
  · rw [if_pos hs] at hv
    rw [extract_none h _ hv, safelisted_eq, hs]
    simp
  · rw [if_neg hs] at hv
    by_cases ha : (icfg.allowAnyMethod && !icfg.credentialed) = true
    · rw [if_pos ha] at hv
      rw [extract_token h _ [42] hv (by decide)]
      have hc : icfg.credentialed = false := by
        simp only [Bool.and_eq_true, Bool.not_eq_true'] at ha; exact ha.2
      rw [hc, Bool.or_false] at hcred
      simp [hcred, star_eq]
    · rw [if_neg ha] at hv
      rw [extract_token h _ _ hv hM]
      simp

theorem methodOK_absent (icfg : ICfg) (i : Intent) (h : HdrMap) (hv : h Facts.headers_ACAM = none)
    (hs : methodCond icfg (methodN i) = false) : methodOK i h = false := by
  unfold methodOK
  rw [extract_none h _ hv]
  have : safelisted (methodN i) = false := by
    rw [safelisted_eq]
    unfold methodCond at hs
    simp only [Bool.or_eq_false_iff] at hs
    exact hs.1.1
  simp [this]

theorem pnaOK_decided (i : Intent) (h : HdrMap) (lines : List Bytes)
    (hv : h Facts.headers_ACAPN = expACAPN (preflightRequest i lines).hdrs) : pnaOK i h = true := by
  unfold pnaOK
  unfold expACAPN at hv
  rw [preflightRequest_acrpn] at hv
  cases hp : i.pna with
  | false => rfl
  | true =>
    simp only [hp, if_true, beq_self_eq_true] at hv
    rw [getHeader_single h _ Facts.headers_ValueTrue hv]
    simp

theorem pnaOK_absent (icfg : ICfg) (i : Intent) (h : HdrMap) (lines : List Bytes) (hv : h Facts.headers_ACAPN = none)
    (hs : pnaCond icfg (preflightRequest i lines).hdrs = false) : pnaOK i h = false := by
  unfold pnaOK
  rw [pnaCond_request] at hs
  rw [getHeader_none h _ hv]
  cases hp : i.pna with
  | false => rw [hp] at hs; simp at hs
  | true => rfl

def hdrPermit (icfg : ICfg) (i : Intent) : Bool :=
  (unsafeNames i).all (fun n =>
    icfg.allowedReqHdrs.contains n
    || (icfg.asteriskReqHdrs && (n != Spec.authorization || icfg.credentialed || icfg.allowAuthorization)))

theorem mem_unsafeNames {i : Intent} {n : Bytes} (h : n ∈ unsafeNames i) : ∃ m ∈ i.headerNames, m.lower = n :=
  List.mem_map.mp (((unsafeNames_spec i).2 n).mp h)

theorem unsafe_lower (i : Intent) : ∀ n ∈ unsafeNames i, n.lower = n := fun _ hn => by
  obtain ⟨m, _, rfl⟩ := mem_unsafeNames hn
  exact lower_idem m

theorem unsafe_valid (i : Intent) (hN : ∀ n ∈ i.headerNames, isValid n = true) : ∀ n ∈ unsafeNames i, isValid n = true :=
  fun _ hn => by
    obtain ⟨m, hm, rfl⟩ := mem_unsafeNames hn
    exact valid_lower (hN m hm)

theorem all_self_contains (l : List Bytes) : l.all (fun n => l.contains n) = true := by
  simp only [List.all_eq_true, List.contains_iff_mem]
  exact fun _ h => h

theorem extract_wildcardAuth (h : HdrMap) (hv : h Facts.headers_ACAH = some Facts.headers_WildcardAuthSgl) :
    extractList h Facts.headers_ACAH = some [[42], Facts.headers_Authorization] := by
  have := extract_of_names h _ _ [[42], Facts.headers_Authorization] hv (by decide) (by decide)
  rw [this]; rfl

theorem allowedReqHdrs_contains (icfg : ICfg) (hrs : icfg.ReqHdrsSound) (n : Bytes) :
    icfg.allowedReqHdrs.contains n = icfg.allowedReqHdrs.elems.contains n :=
  SortedSet.contains_iff _ hrs.exact.wf n

theorem headersOK_of {i : Intent} {h : HdrMap} {L : List Bytes} (hx : extractList h Facts.headers_ACAH = some L) :
    headersOK i h =
      ((!(unsafeNames i).contains Spec.authorization || (L.map Bytes.lower).contains Spec.authorization)
        && (unsafeNames i).all (fun n => (L.map Bytes.lower).contains n || (!i.creds && L.contains Spec.star))) := by
  unfold headersOK; rw [hx]

theorem headersOK_echo {i : Intent} {h : HdrMap} (hx : extractList h Facts.headers_ACAH = some (unsafeNames i)) :
    headersOK i h = true := by
  rw [headersOK_of hx, map_eq_self (unsafe_lower i)]
  simp only [Bool.and_eq_true, Bool.or_eq_true, Bool.not_eq_true', List.all_eq_true]
  exact ⟨by cases (unsafeNames i).contains Spec.authorization <;> simp, fun n hn => Or.inl (List.contains_iff_mem.mpr hn)⟩

theorem headersOK_listed {i : Intent} {h : HdrMap} {L : List Bytes} (hx : extractList h Facts.headers_ACAH = some L)
    (hl : L.map Bytes.lower = L) (hw : (!i.creds && L.contains Spec.star) = false) :
    headersOK i h = (unsafeNames i).all (fun n => L.contains n) := by
  rw [headersOK_of hx, hl, hw]
  simp only [Bool.or_false]
  cases hall : (unsafeNames i).all (fun n => L.contains n) with
  | false => exact Bool.and_false _
  | true =>
    rw [Bool.and_true, Bool.or_eq_true, Bool.not_eq_true']
    cases hc : (unsafeNames i).contains Spec.authorization with
    | false => exact Or.inl rfl
    | true => exact Or.inr (List.all_eq_true.mp hall _ (List.contains_iff_mem.mp hc))

theorem headersOK_decided (icfg : ICfg) (hrs : icfg.ReqHdrsSound) (i : Intent) (lines : List Bytes) (dbg : Bool) (h : HdrMap)
    (hv : h Facts.headers_ACAH = expACAH icfg dbg (preflightRequest i lines).hdrs)
    (hcond : headerCondD (modelDec icfg) icfg (preflightRequest i lines).hdrs dbg = true)
    (hN : ∀ n ∈ i.headerNames, isValid n = true)
    (hL : unsafeNames i ≠ [] → Tolerated (unsafeNames i) lines)
    (hcred : (!i.creds || icfg.credentialed) = true) : headersOK i h = hdrPermit icfg i := by
  unfold expACAH at hv
  unfold headerCondD at hcond
  rw [preflightRequest_acrh] at hv hcond
  by_cases hu : unsafeNames i = []
  · rw [hu] at hv
    unfold headersOK hdrPermit
    rw [extract_none h _ hv, hu]
    rfl
  have he : (unsafeNames i).isEmpty = false := by simpa using hu
  simp only [he, Bool.false_eq_true, if_false] at hv hcond
  -- the lines are echoed: the browser finds its own list
  have echo : h Facts.headers_ACAH = some lines → headersOK i h = true := fun hv =>
    headersOK_echo (extract_tolerated h _ _ lines hv (unsafe_valid i hN) (hL hu))
  have hset : (fun n => icfg.allowedReqHdrs.contains n) = (fun n => icfg.allowedReqHdrs.elems.contains n) :=
    funext (allowedReqHdrs_contains icfg hrs)
  unfold hdrPermit
  -- The table.  `*` with credentials: the lines are echoed, and `*` permits every name.  `*` without: the value is `*` or
  -- `*,authorization` (by `allowAuthorization`); `*` counts for the browser (`hic`) for every name but `authorization`
  -- (`all_ne_or`).  A discrete list, debug off: the lines are echoed and the scan has said that every name is allowed
  -- (`check_tolerated`).  Debug on: the value is the configured list (`headersOK_listed`).
  cases hast : icfg.asteriskReqHdrs with
  | true =>
    rw [hrs.asterisk_empty hast] at hset
    simp only [hset, List.contains_nil, Bool.false_or, Bool.true_and]
    cases hc : icfg.credentialed with
    | true =>
      simp only [hast, hc, Bool.not_true, Bool.and_false, Bool.false_eq_true, if_false, Bool.and_self, if_true] at hv
      simp [echo hv]
    | false =>
      have hic : i.creds = false := by simpa [hc] using hcred
      simp only [hast, hc, Bool.not_false, Bool.and_self, if_true] at hv
      simp only [Bool.or_false]
      rw [all_ne_or]
      cases hau : icfg.allowAuthorization with
      | true =>
        rw [hau, if_pos rfl] at hv
        rw [headersOK_of (extract_wildcardAuth h hv), hic,
          auth_eq, show ([[42], Facts.headers_Authorization].map Bytes.lower).contains Facts.headers_Authorization = true by decide]
        simp [star_eq]
      | false =>
        rw [hau, if_neg (by simp)] at hv
        rw [headersOK_of (extract_token h _ [42] hv (by decide)), hic,
          auth_eq, show ([[42]].map Bytes.lower).contains Facts.headers_Authorization = false by decide]
        simp [star_eq]
  | false =>
    simp only [hast, Bool.false_and, Bool.false_eq_true, if_false, Bool.false_or, Bool.or_false] at hv hcond ⊢
    rw [hset]
    cases dbg with
    | false =>
      simp only [Bool.not_false, if_true, Bool.false_eq_true, if_false, Bool.and_eq_true] at hv hcond
      rw [echo hv, ← check_tolerated _ hrs.exact.wf _ _ (unsafeNames_spec i).1 (hL hu)]
      exact hcond.2.symm
    | true =>
      simp only [Bool.not_true, Bool.false_eq_true, if_false, if_true] at hv hcond
      -- debug mode answers with the configured list
      have hne : icfg.allowedReqHdrs.elems ≠ [] := fun h0 => by
        rw [hrs.acah_isEmpty hast, SortedSet.size_eq_zero.mpr h0] at hcond; cases hcond
      rw [hrs.acah hast, if_neg hne] at hv
      refine headersOK_listed (extract_join h _ _ hne hv (fun n hn => (hrs.tokens n hn).1))
        (map_eq_self fun n hn => (hrs.tokens n hn).2.1) ?_
      have : icfg.allowedReqHdrs.elems.contains Spec.star = false :=
        Bool.eq_false_iff.mpr fun hcs => (hrs.tokens _ (List.contains_iff_mem.mp hcs)).2.2 (by decide)
      rw [this, Bool.and_false]

theorem headersOK_absent (i : Intent) (h : HdrMap) (hv : h Facts.headers_ACAH = none)
    (hne : unsafeNames i ≠ []) : headersOK i h = false := by
  unfold headersOK
  rw [extract_none h _ hv]
  simp only [List.map_nil, List.contains_nil, Bool.or_false, Bool.and_false]
  rw [all_false_of_ne_nil _ hne, Bool.and_false]

theorem hdrPermit_false (icfg : ICfg) (hrs : icfg.ReqHdrsSound) (i : Intent) (lines : List Bytes) (dbg : Bool)
    (hcond : headerCondD (modelDec icfg) icfg (preflightRequest i lines).hdrs dbg = false)
    (hL : unsafeNames i ≠ [] → Tolerated (unsafeNames i) lines) :
    unsafeNames i ≠ [] ∧ hdrPermit icfg i = false := by
  unfold headerCondD at hcond
  rw [preflightRequest_acrh] at hcond
  have hu : unsafeNames i ≠ [] := by
    intro h
    simp [h] at hcond
  refine ⟨hu, ?_⟩
  have he : (unsafeNames i).isEmpty = false := by simpa using hu
  simp only [he, Bool.false_eq_true, if_false, Bool.or_eq_false_iff] at hcond
  obtain ⟨hast, hrest⟩ := hcond
  unfold hdrPermit
  simp only [hast, Bool.false_and, Bool.or_false]
  rw [show (fun n => icfg.allowedReqHdrs.contains n) = _ from funext (allowedReqHdrs_contains icfg hrs)]
  have hnil : icfg.allowedReqHdrs.elems = [] → (unsafeNames i).all (fun n => icfg.allowedReqHdrs.elems.contains n) = false :=
    fun h0 => by rw [h0]; exact all_false_of_ne_nil _ hu
  cases dbg with
  | true => exact hnil (SortedSet.size_eq_zero.mp (by simpa [hrs.acah_isEmpty hast] using hrest))
  | false =>
    simp only [Bool.false_eq_true, if_false, Bool.and_eq_false_iff] at hrest
    rcases hrest with h0 | h0
    · exact hnil (SortedSet.size_eq_zero.mp (by simpa using h0))
    · rw [← check_tolerated _ hrs.exact.wf _ _ (unsafeNames_spec i).1 (hL hu)]
      exact h0

def originPermit (dec : Dec) (icfg : ICfg) (i : Intent) : Bool :=
  ((icfg.tree.isEmpty && !icfg.credentialed) || dec.allowed i.origin) && (!i.creds || icfg.credentialed)

theorem permits_eq (dec : Dec) (icfg : ICfg) (i : Intent) :
    permits dec icfg i = (originPermit dec icfg i && !icfg.pnaNoCors && methodPermit icfg i && hdrPermit icfg i &&
      (!i.pna || icfg.pna)) := rfl

theorem ne_star_of_parses {o : Bytes} (h : (Lex.parse o).isSome = true) : o ≠ Spec.star := by
  intro e
  rw [e] at h
  revert h
  decide

theorem actual_check (dec : Dec) (icfg : ICfg) (dbg : Bool) (i : Intent) (hne : i.origin ≠ Spec.star) :
    corsCheck i (serveDec dec icfg dbg (actualRequest i) HdrMap.empty).hdrs =
      (originPermit dec icfg i && !icfg.pnaNoCors) := by
  have hh : (serveDec dec icfg dbg (actualRequest i) HdrMap.empty).hdrs =
      handleCORSActual dec icfg HdrMap.empty i.origin ((actualRequest i).method == OPTIONS) := by
    unfold serveDec
    simp only [actualRequest_origin, actualRequest_acrm]
  have ho := actualRequest_origin i
  rw [hh, handleCORSActual_closed, corsCheck_of_decision (actual_decision ho) ho ((written_acao ..).trans Option.or_none)
    ((written_acac ..).trans Option.or_none) hne, actualACAO_isSome, originPermit]
  cases ((icfg.tree.isEmpty && !icfg.credentialed) || dec.allowed i.origin) <;> cases icfg.pnaNoCors <;>
    cases (!i.creds || icfg.credentialed) <;> rfl

theorem okStatus_ok (icfg : ICfg) (hwf : icfg.WF) : Browser.okStatus (some (Serve.okStatus icfg)) = true := by
  simpa [Browser.okStatus] using okStatus_range hwf

/-- `dbg || cH`: the buffer is copied into the response (`maps.Copy(resHdrs, buf)`: in debug mode, or on success). -/
theorem preflight_seen (dec : Dec) (icfg : ICfg) (reqHdrs : HdrMap) (o m : Bytes) (dbg : Bool) :
    let r := handleCORSPreflight dec icfg HdrMap.empty reqHdrs o m dbg
    let cO := originCond dec icfg o
    let cP := cO && pnaCond icfg reqHdrs
    let cM := cP && methodCond icfg m
    let cH := cM && headerCondD dec icfg reqHdrs dbg
    r.hdrs Facts.headers_ACAO = (if (dbg || cH) && cO then expACAO icfg o else none) ∧
    r.hdrs Facts.headers_ACAC = (if (dbg || cH) && cO then expACAC icfg else none) ∧
    r.hdrs Facts.headers_ACAPN = (if (dbg || cH) && cP then expACAPN reqHdrs else none) ∧
    r.hdrs Facts.headers_ACAM = (if (dbg || cH) && cM then expACAM icfg m else none) ∧
    r.hdrs Facts.headers_ACAH = (if cH then expACAH icfg dbg reqHdrs else none) ∧
    (cH = true → r.status = some (Serve.okStatus icfg)) := by
  rw [handleCORSPreflight_closed]
  simp only [preflightWritten_acao, preflightWritten_acac, preflightWritten_acah,
    preflightWritten_key _ _ _ _ _ _ _ acapn_vary acapn_acma, preflightWritten_key _ _ _ _ _ _ _ acam_vary acam_acma,
    pipelineBuf_acapn, pipelineBuf_acam, HdrMap.empty, Option.or_none, true_and]
  intro h
  rw [h]
  rfl

theorem preflight_check (icfg : ICfg) (hwf : icfg.WF) (hrs : icfg.ReqHdrsSound) (dbg : Bool) (i : Intent)
    (lines : List Bytes)
    (hO : (Lex.parse i.origin).isSome = true)
    (hM : isValid (methodN i) = true)
    (hN : ∀ n ∈ i.headerNames, isValid n = true)
    (hL : unsafeNames i ≠ [] → Tolerated (unsafeNames i) lines) :
    preflightPasses i (serve icfg dbg (preflightRequest i lines) HdrMap.empty) =
      (originPermit (modelDec icfg) icfg i && methodPermit icfg i && hdrPermit icfg i
        && (!i.pna || icfg.pna || icfg.pnaNoCors)) := by
  have hne := ne_star_of_parses hO
  rw [serve_preflight, preflightPasses_split, methodPermit_eq, ← pnaCond_request icfg i lines, originPermit,
    ← originCond_request (modelDec icfg) icfg i hO]
  obtain ⟨hao, hac, hap, ham, hah, hst⟩ :=
    preflight_seen (modelDec icfg) icfg (preflightRequest i lines).hdrs i.origin (methodN i) dbg
  -- the first condition that fails leaves its header out
  cases cO : originCond (modelDec icfg) icfg i.origin with
  | false => rw [corsCheck_absent i _ (by simpa [cO] using hao)]; simp
  | true =>
  cases cP : pnaCond icfg (preflightRequest i lines).hdrs with
  | false => rw [pnaOK_absent icfg i _ lines (by simpa [cO, cP] using hap) cP]; simp
  | true =>
  cases cM : methodCond icfg (methodN i) with
  | false => rw [methodOK_absent icfg i _ (by simpa [cO, cP, cM] using ham) cM]; simp
  | true =>
  cases cH : headerCondD (modelDec icfg) icfg (preflightRequest i lines).hdrs dbg with
  | false =>
    obtain ⟨hne2, hp⟩ := hdrPermit_false icfg hrs i lines dbg cH hL
    rw [hp, headersOK_absent i _ (by simpa [cO, cP, cM, cH] using hah) hne2]; simp
  | true =>
    simp only [cO, cP, cM, cH, Bool.and_self, Bool.or_true, if_true] at hao hac hap ham hah
    rw [hst (by simp [cO, cP, cM, cH]), okStatus_ok icfg hwf, corsCheck_decided _ icfg i lines _ cO hao hac hne, pnaOK_decided i _ lines hap]
    cases hcred : (!i.creds || icfg.credentialed) with
    | false => simp
    | true => rw [methodOK_decided icfg i _ ham hM hcred, headersOK_decided icfg hrs i lines dbg _ hah cH hN hL hcred]

end Browser
end Cors
