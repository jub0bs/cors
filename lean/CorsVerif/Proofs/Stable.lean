import CorsVerif.Proofs.StoreAbs
/-
  Lists of stored entries under repeated `absInsert` (`run`, newest first): what a tree built by successive
  insertions stores (`fold_run`, Tree.lean).  Successive insertions add up the coverages (`run_any_ecov`, which
  carries `C01_tree`).  For the stability of `Config().Origins` (C06, last sentence): `absInsert` keeps a list
  irredundant (`Irr`) and only ever removes entries or adds the new one in front; re-inserting an irredundant
  list in its original order stores every entry again (`rerun`), so inserting, keeping the survivors and
  inserting those again changes nothing (`norm_norm`).
-/
namespace Cors
namespace Node

/-- Irredundant (newest first): no older entry drops a newer one, no newer entry deletes an older one. -/
def Irr (S : List Entry) : Prop := S.Pairwise fun e b => Apart b e

/-- The entries `L` inserted one after the other, first to last, into the list `S`. -/
def run (S : List Entry) (L : List Entry) : List Entry := L.foldl absInsert S

theorem absInsert_sublist (S : List Entry) (e : Entry) : (absInsert S e).Sublist (e :: S) := by
  unfold absInsert
  split
  · exact List.sublist_cons_self e S
  · exact List.Sublist.cons_cons e List.filter_sublist

theorem absInsert_irr (S : List Entry) (e : Entry) (h : Irr S) : Irr (absInsert S e) := by
  unfold absInsert
  split
  · exact h
  · rename_i hany
    unfold Irr
    rw [List.pairwise_cons]
    refine ⟨?_, List.Pairwise.sublist List.filter_sublist h⟩
    intro b hb
    obtain ⟨hb, hdel⟩ := List.mem_filter.mp hb
    exact ⟨Bool.eq_false_iff.mpr fun hd => hany (List.any_eq_true.mpr ⟨b, hb, hd⟩), by simpa using hdel⟩

theorem run_irr (L S : List Entry) (h : Irr S) : Irr (run S L) :=
  List.foldlRecOn L absInsert h fun S hS e _ => absInsert_irr S e hS

theorem run_sublist (L S : List Entry) : (run S L).Sublist (L.reverse ++ S) := by
  induction L generalizing S with
  | nil => exact List.Sublist.refl _
  | cons e L ih =>
    have h1 := ih (absInsert S e)
    have h2 : (L.reverse ++ absInsert S e).Sublist (L.reverse ++ (e :: S)) :=
      List.Sublist.append (List.Sublist.refl _) (absInsert_sublist S e)
    have h3 : L.reverse ++ (e :: S) = (e :: L).reverse ++ S := by simp
    rw [← h3]
    exact h1.trans h2

theorem rerun (S : List Entry) (h : Irr S) : run [] S.reverse = S := by
  induction S with
  | nil => rfl
  | cons e B ih =>
    unfold Irr at h
    rw [List.pairwise_cons] at h
    unfold run at ih ⊢
    rw [List.reverse_cons, List.foldl_append, ih h.2]
    simp only [List.foldl_cons, List.foldl_nil]
    exact absInsert_apart B e (fun b hb => h.1 b hb)

theorem absInsert_ne_nil (S : List Entry) (e : Entry) : absInsert S e ≠ [] := by
  unfold absInsert
  split
  · rename_i hany
    rintro rfl
    cases hany
  · exact List.cons_ne_nil _ _

theorem run_ne_nil {S L : List Entry} (h : S ≠ [] ∨ L ≠ []) : run S L ≠ [] := by
  induction L generalizing S with
  | nil => exact h.resolve_right fun hn => hn rfl
  | cons e L ih => exact ih (Or.inl (absInsert_ne_nil S e))

theorem run_any_ecov (L S : List Entry) (hL : ∀ e ∈ L, e.2.2 ≤ 65536) (h sch' : Bytes) (p' : Int) :
    (run S L).any (ecov · h sch' p') = (S.any (ecov · h sch' p') || L.any (ecov · h sch' p')) := by
  induction L generalizing S with
  | nil => simp [run]
  | cons e L ih =>
    unfold run at ih ⊢
    rw [List.foldl_cons, ih _ (fun x hx => hL x (List.mem_cons_of_mem _ hx)),
      absInsert_any_ecov _ _ (hL e List.mem_cons_self), List.any_cons, Bool.or_assoc]

/-- What a rebuild keeps of a list of entries, in the order of the list. -/
def norm (Z : List Entry) : List Entry := (run [] Z).reverse

theorem norm_sublist (Z : List Entry) : (norm Z).Sublist Z := by
  have := (run_sublist Z []).reverse
  rwa [List.append_nil, List.reverse_reverse] at this

theorem norm_norm (Z : List Entry) : norm (norm Z) = norm Z := by
  unfold norm; rw [rerun _ (run_irr Z [] .nil)]

theorem absInsert_perm {S S' : List Entry} (h : S.Perm S') (e : Entry) : (absInsert S e).Perm (absInsert S' e) := by
  unfold absInsert
  rw [h.any_eq]
  split
  · exact h
  · exact List.Perm.cons e (h.filter _)

theorem run_perm (L : List Entry) {S S' : List Entry} (h : S.Perm S') : (run S L).Perm (run S' L) := by
  induction L generalizing S S' with
  | nil => exact h
  | cons e L ih => exact ih (absInsert_perm h e)

end Node
end Cors
