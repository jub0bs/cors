import CorsVerif.Proofs.Ports
/-
  The radix tree, before anything is said about what it stores: prefix helpers, what one entry covers,
  the tree invariant, the equations of `contains` and of `insertChild` (descend, or split where key and
  suffix part), and that `Insert` keeps the invariant.
-/
namespace Cors
namespace Node

theorem stripPrefix_some_iff {p s r : Bytes} : stripPrefix p s = some r ↔ s = p ++ r := by
  fun_induction stripPrefix p s <;> simp_all [Ne.symm]

theorem stripPrefix_append (a b s : Bytes) :
    stripPrefix (a ++ b) s = (stripPrefix a s).bind (stripPrefix b) := by
  induction a generalizing s with
  | nil => simp [stripPrefix]
  | cons x a ih =>
    cases s with
    | nil => simp [stripPrefix]
    | cons y s =>
      simp only [List.cons_append, stripPrefix]
      split
      · exact ih s
      · rfl

theorem stripPrefix_self_append (p r : Bytes) : stripPrefix p (p ++ r) = some r :=
  stripPrefix_some_iff.mpr rfl

theorem stripPrefix_cons_ne {a b : Nat} (p s : Bytes) (h : a ≠ b) : stripPrefix (a :: p) (b :: s) = none := by
  simp [stripPrefix, h]

theorem stripPrefix_eq_none_iff {p s : Bytes} : stripPrefix p s = none ↔ ¬ p <+: s := by
  constructor
  · rintro h ⟨r, rfl⟩
    rw [stripPrefix_self_append] at h; cases h
  · intro h
    cases hs : stripPrefix p s with
    | none => rfl
    | some r => exact absurd ⟨r, (stripPrefix_some_iff.mp hs).symm⟩ h

/-- `splitAtCommonSuffix` (reversed view): common prefix and the two remainders, whose heads differ. -/
theorem splitCommon_spec (a b : Bytes) :
    a = (splitCommon a b).2.2 ++ (splitCommon a b).1 ∧ b = (splitCommon a b).2.2 ++ (splitCommon a b).2.1 ∧
    ∀ x y ra rb, (splitCommon a b).1 = x :: ra → (splitCommon a b).2.1 = y :: rb → x ≠ y := by
  fun_induction splitCommon a b with
  | case1 a as b bs h ra rb c hsp ih =>
    rw [hsp] at ih
    obtain ⟨h1, h2, h3⟩ := ih
    obtain rfl : a = b := by simpa using h
    exact ⟨by rw [h1]; rfl, by rw [h2]; rfl, h3⟩
  | case2 a as b bs h =>
    refine ⟨rfl, rfl, fun x y ra rb h1 h2 => ?_⟩
    cases h1; cases h2
    simpa using h
  | case3 as bs h => exact ⟨rfl, rfl, fun x y ra rb h1 h2 _ => h x ra y rb h1 h2⟩

/-- The converse of `splitCommon_spec`. -/
theorem splitCommon_unique (c : Bytes) : ∀ {a b ra rb : Bytes}, a = c ++ ra → b = c ++ rb →
    (∀ x y ra' rb', ra = x :: ra' → rb = y :: rb' → x ≠ y) → splitCommon a b = (ra, rb, c) := by
  induction c with
  | nil =>
    intro a b ra rb ha hb h
    subst ha hb
    match a, b, h with
    | [], [], _ | [], _ :: _, _ | _ :: _, [], _ => rfl
    | x :: a, y :: b, h =>
      -- the heads differ: `splitCommon` stops at once
      simp [splitCommon, h x y a b rfl rfl]
  | cons x c ih =>
    intro a b ra rb ha hb h
    subst ha hb
    simp [splitCommon, ih rfl rfl h]

theorem splitCommon_diverge (common restS rc : Bytes) {l1 : Nat} (hd : restS.head? ≠ some l1) :
    splitCommon (common ++ restS) (common ++ l1 :: rc) = (restS, l1 :: rc, common) :=
  splitCommon_unique common rfl rfl fun x y ra rb h1 h2 hxy => hd (by rw [h1, hxy]; cases h2; rfl)

theorem splitCommon_comm (a b : Bytes) :
    splitCommon b a = ((splitCommon a b).2.1, (splitCommon a b).1, (splitCommon a b).2.2) := by
  obtain ⟨h1, h2, h3⟩ := splitCommon_spec a b
  exact splitCommon_unique _ h2 h1 (fun x y ra rb hx hy => (h3 y x rb ra hy hx).symm)

/-- `Tree.Contains` tests `len(suf) != len(n.suf)` on the common part; the model's `stripPrefix` is that test. -/
theorem stripPrefix_splitCommon (p s : Bytes) :
    stripPrefix p s = if (splitCommon s p).2.2.length = p.length then some (splitCommon s p).1 else none := by
  obtain ⟨hs, hp, hd⟩ := splitCommon_spec s p
  generalize splitCommon s p = sp at hs hp hd ⊢
  obtain ⟨ra, rb, c⟩ := sp
  subst hs hp
  rw [stripPrefix_append, stripPrefix_self_append]
  cases rb with
  | nil => simp [stripPrefix]
  | cons y rb =>
    cases ra with
    | nil => simp [stripPrefix]
    | cons x ra => simp [stripPrefix, (hd x y ra rb rfl rfl).symm]

/-- The coverage of the entry `(key s, scheme, port, wildcardSubs)` on a query `(host h, scheme', port')`:
same scheme, same or wildcard port, and the key equals the host (exact entry) or is a strict prefix
of it (wildcard-subdomains entry). Keys and hosts are in the reversed view. -/
def entryCovers (s sch : Bytes) (p : Int) (w : Bool) (h sch' : Bytes) (p' : Int) : Bool :=
  sch == sch' && ((if w then decide (s.length < h.length) && s.isPrefixOf h else s == h) && (p == p' || p == 65536))

theorem entryCovers_iff {s sch : Bytes} {p : Int} {w : Bool} {h sch' : Bytes} {p' : Int} :
    entryCovers s sch p w h sch' p' = true ↔
      sch = sch' ∧ (if w then s.length < h.length ∧ s <+: h else s = h) ∧ (p = p' ∨ p = 65536) := by
  unfold entryCovers; cases w <;> simp

theorem entryCovers_cancel (pre s sch : Bytes) (p : Int) (w : Bool) (h sch' : Bytes) (p' : Int) :
    entryCovers (pre ++ s) sch p w (pre ++ h) sch' p' = entryCovers s sch p w h sch' p' := by
  rw [Bool.eq_iff_iff, entryCovers_iff, entryCovers_iff]
  simp only [List.length_append, Nat.add_lt_add_iff_left, List.prefix_append_right_inj, List.append_right_inj]

theorem entryCovers_not_prefix {s sch : Bytes} {p : Int} {w : Bool} {h sch' : Bytes} {p' : Int}
    (hn : ¬ s <+: h) : entryCovers s sch p w h sch' p' = false := by
  rw [Bool.eq_false_iff, Ne, entryCovers_iff]
  rintro ⟨_, hk, _⟩
  split at hk
  · exact hn hk.2
  · exact hn (hk ▸ List.prefix_refl _)

theorem entryCovers_head_ne (a b : Nat) (s h sch : Bytes) (p : Int) (w : Bool) (sch' : Bytes) (p' : Int) (hab : a ≠ b) :
    entryCovers (a :: s) sch p w (b :: h) sch' p' = false :=
  entryCovers_not_prefix (by simp [hab])

theorem entryCovers_nil_host (a : Nat) (s sch : Bytes) (p : Int) (w : Bool) (sch' : Bytes) (p' : Int) :
    entryCovers (a :: s) sch p w [] sch' p' = false :=
  entryCovers_not_prefix (by simp)

theorem entryCovers_nil_key (sch : Bytes) (p : Int) (w : Bool) (h sch' : Bytes) (p' : Int) :
    entryCovers [] sch p w h sch' p' = (sch == sch' && ((w == !h.isEmpty) && (p == p' || p == 65536))) := by
  unfold entryCovers
  cases w <;> cases h <;> simp [List.isPrefixOf]

mutual
/-- Invariant of a node.  Its own suffix is constrained at its parent: non-empty, starting with the edge label. -/
def Inv : Node → Prop
  | .mk _ schemes kids => SchemesOK schemes ∧ KidsInv kids
def KidsInv : List (Nat × Node) → Prop
  | [] => True
  | (l, c) :: rest => c.suf.head? = some l ∧ Inv c ∧ (∀ e ∈ rest, l < e.1) ∧ KidsInv rest
end

theorem Inv_mk {suf : Bytes} {S : List (Bytes × List Int)} {K : List (Nat × Node)} :
    Inv (.mk suf S K) ↔ SchemesOK S ∧ KidsInv K := by simp [Inv]

theorem KidsInv_cons {l : Nat} {c : Node} {rest : List (Nat × Node)} :
    KidsInv ((l, c) :: rest) ↔ c.suf.head? = some l ∧ Inv c ∧ (∀ e ∈ rest, l < e.1) ∧ KidsInv rest := by simp [KidsInv]

theorem KidsInv_nil : KidsInv [] := by unfold KidsInv; trivial

theorem KidsInv_single (l : Nat) (c : Node) (h1 : c.suf.head? = some l) (h2 : Inv c) : KidsInv [(l, c)] := by
  rw [KidsInv_cons]
  exact ⟨h1, h2, fun e he => absurd he List.not_mem_nil, KidsInv_nil⟩

theorem KidsInv_iff {K : List (Nat × Node)} :
    KidsInv K ↔ K.Pairwise (fun a b => a.1 < b.1) ∧ ∀ e ∈ K, e.2.suf.head? = some e.1 ∧ Inv e.2 := by
  induction K with
  | nil => simp [KidsInv_nil]
  | cons x rest ih =>
    rw [KidsInv_cons, ih, List.pairwise_cons, List.forall_mem_cons]
    constructor
    · rintro ⟨h1, h2, h3, h4, h5⟩; exact ⟨⟨h3, h4⟩, ⟨h1, h2⟩, h5⟩
    · rintro ⟨⟨h3, h4⟩, ⟨h1, h2⟩, h5⟩; exact ⟨h1, h2, h3, h4, h5⟩

theorem KidsInv_all {K : List (Nat × Node)} (hK : KidsInv K) {e : Nat × Node} (he : e ∈ K) :
    e.2.suf.head? = some e.1 ∧ Inv e.2 :=
  (KidsInv_iff.mp hK).2 e he

theorem Inv_empty : Inv Node.empty := by simp [Node.empty, Inv, KidsInv, SchemesOK_nil]

def childLookup (c : Node) (h sch' : Bytes) (p' : Int) : Bool :=
  match stripPrefix c.suf h with
  | none => false
  | some h' => contains c h' sch' p'

theorem containsKids_cons (l : Nat) (c : Node) (rest : List (Nat × Node)) (l' : Nat) (h sch' : Bytes) (p' : Int) :
    containsKids ((l, c) :: rest) l' h sch' p' =
      if l' == l then childLookup c h sch' p' else containsKids rest l' h sch' p' := by
  cases c with
  | mk csuf cs ck =>
    rw [containsKids]
    simp only [childLookup, Node.suf]
    split <;> rfl

theorem containsKids_nil (l' : Nat) (h sch' : Bytes) (p' : Int) : containsKids [] l' h sch' p' = false := by
  rw [containsKids]

theorem contains_nil_host (suf : Bytes) (S : List (Bytes × List Int)) (K : List (Nat × Node)) (sch' : Bytes) (p' : Int) :
    contains (.mk suf S K) [] sch' p' = containsPort S sch' p' false := by
  rw [contains]

theorem contains_cons_host (suf : Bytes) (S : List (Bytes × List Int)) (K : List (Nat × Node)) (x : Nat) (t sch' : Bytes) (p' : Int) :
    contains (.mk suf S K) (x :: t) sch' p' = (containsPort S sch' p' true || containsKids K x (x :: t) sch' p') := by
  rw [contains]
  cases containsPort S sch' p' true <;> simp

def kidsLookup (K : List (Nat × Node)) (h sch' : Bytes) (p' : Int) : Bool :=
  match h with
  | [] => false
  | x :: _ => containsKids K x h sch' p'

theorem kidsLookup_nil (h sch' : Bytes) (p' : Int) : kidsLookup [] h sch' p' = false := by
  cases h with
  | nil => rfl
  | cons x t => exact containsKids_nil x (x :: t) sch' p'

/-- One iteration of `Tree.Contains`: the node's own table, asked for an exact entry when no host byte is left and
for a wildcard-subdomains entry otherwise, then the children. -/
theorem contains_mk (suf : Bytes) (S : List (Bytes × List Int)) (K : List (Nat × Node)) (h sch' : Bytes) (p' : Int) :
    contains (.mk suf S K) h sch' p' = (containsPort S sch' p' (!h.isEmpty) || kidsLookup K h sch' p') := by
  cases h with
  | nil => rw [contains_nil_host]; simp [kidsLookup]
  | cons x t => rw [contains_cons_host]; rfl

theorem contains_suf_irrel (s1 s2 : Bytes) (S : List (Bytes × List Int)) (K : List (Nat × Node)) (h sch' : Bytes) (p' : Int) :
    contains (.mk s1 S K) h sch' p' = contains (.mk s2 S K) h sch' p' := by
  rw [contains_mk, contains_mk]

theorem containsKids_none_of_lt (K : List (Nat × Node)) (l' : Nat) (h sch' : Bytes) (p' : Int)
    (hl : ∀ e ∈ K, l' < e.1) : containsKids K l' h sch' p' = false := by
  induction K with
  | nil => exact containsKids_nil _ _ _ _
  | cons e rest ih =>
    obtain ⟨l, c⟩ := e
    rw [containsKids_cons]
    have h1 := hl (l, c) List.mem_cons_self
    have : (l' == l) = false := by simp only [beq_eq_false_iff_ne, ne_eq]; omega
    rw [this]
    simp only [Bool.false_eq_true, if_false]
    exact ih (fun e he => hl e (List.mem_cons_of_mem _ he))

/-- Under the invariant at most one child can answer: the one whose suffix starts with the first byte. -/
theorem kidsLookup_cons {l : Nat} {c : Node} {rest : List (Nat × Node)} (hK : KidsInv ((l, c) :: rest))
    (h sch' : Bytes) (p' : Int) :
    kidsLookup ((l, c) :: rest) h sch' p' = (childLookup c h sch' p' || kidsLookup rest h sch' p') := by
  obtain ⟨hhead, _, hlt, _⟩ := KidsInv_cons.mp hK
  obtain ⟨ct, hct⟩ := List.head?_eq_some_iff.mp hhead
  cases h with
  | nil => simp [kidsLookup, childLookup, hct, stripPrefix]
  | cons x t =>
    simp only [kidsLookup]
    rw [containsKids_cons]
    by_cases hx : x = l
    · subst hx
      rw [containsKids_none_of_lt rest x _ _ _ hlt]
      simp
    · have hb : (x == l) = false := by simpa using hx
      rw [hb, childLookup, hct, stripPrefix_cons_ne _ _ (fun hh => hx hh.symm)]
      simp

theorem leaf_inv (s sch : Bytes) (p : Int) (w : Bool) (hp : 0 ≤ p ∧ p ≤ 65536) : Inv (leaf s sch p w) := by
  unfold leaf
  rw [Inv_mk]
  exact ⟨addPort_ok [] SchemesOK_nil sch p w hp, by simp [KidsInv]⟩

theorem upsert_two (l1 l2 : Nat) (a b : Node) (h : l1 ≠ l2) :
    upsert l2 b [(l1, a)] = if l2 < l1 then [(l2, b), (l1, a)] else [(l1, a), (l2, b)] := by
  simp only [upsert]
  split
  · rfl
  · have : (l2 == l1) = false := by simpa using fun hh => h hh.symm
    simp [this]

theorem insertKids_labels (K : List (Nat × Node)) (label : Nat) (s sch : Bytes) (p : Int) (w : Bool) :
    ∀ e ∈ insertKids K label s sch p w, e.1 = label ∨ ∃ e' ∈ K, e.1 = e'.1 := by
  induction K with
  | nil =>
    intro e he
    rw [insertKids, List.mem_singleton] at he
    exact Or.inl (by rw [he])
  | cons x rest ih =>
    obtain ⟨l, c⟩ := x
    intro e he
    rw [insertKids] at he
    split at he
    · rcases List.mem_cons.mp he with rfl | he
      · exact Or.inl rfl
      · exact Or.inr ⟨e, he, rfl⟩
    · split at he
      · rcases List.mem_cons.mp he with rfl | he
        · exact Or.inr ⟨(l, c), List.mem_cons_self, rfl⟩
        · exact Or.inr ⟨e, List.mem_cons_of_mem _ he, rfl⟩
      · rcases List.mem_cons.mp he with rfl | he
        · exact Or.inr ⟨(l, c), List.mem_cons_self, rfl⟩
        · exact (ih e he).imp id fun ⟨e', he', h⟩ => ⟨e', List.mem_cons_of_mem _ he', h⟩

theorem insert_suf (n : Node) (s sch : Bytes) (p : Int) (w : Bool) : (insert n s sch p w).suf = n.suf := by
  fun_cases insert n s sch p w <;> rfl

theorem insertKids_ne_nil (K : List (Nat × Node)) (label : Nat) (s sch : Bytes) (p : Int) (w : Bool) :
    insertKids K label s sch p w ≠ [] := by
  fun_cases insertKids K label s sch p w <;> exact List.cons_ne_nil _ _

theorem isEmpty_mk (suf : Bytes) (S : List (Bytes × List Int)) (K : List (Nat × Node)) :
    (Node.mk suf S K).isEmpty = false ↔ S ≠ [] ∨ K ≠ [] := by
  cases S <;> cases K <;> simp [isEmpty, schemes, kids]

theorem insert_nonempty (n : Node) (s sch : Bytes) (p : Int) (w : Bool) : (insert n s sch p w).isEmpty = false := by
  fun_cases insert n s sch p w
  · exact (isEmpty_mk _ _ _).mpr (Or.inl (addPort_ne_nil _ _ _ _))
  · exact (isEmpty_mk _ _ _).mpr (Or.inl (containsPort_ne_nil ‹_›))
  · exact (isEmpty_mk _ _ _).mpr (Or.inr (insertKids_ne_nil _ _ _ _ _ _))

theorem Inv_suf_irrel {s1 s2 : Bytes} {S : List (Bytes × List Int)} {K : List (Nat × Node)} (h : Inv (.mk s1 S K)) :
    Inv (.mk s2 S K) := Inv_mk.mpr (Inv_mk.mp h)

theorem diverge_of_not_prefix {a s : Bytes} (h : ¬ a <+: s) :
    ∃ common restS l1 rc, s = common ++ restS ∧ a = common ++ l1 :: rc ∧ restS.head? ≠ some l1 := by
  obtain ⟨hs, ha, hdiff⟩ := splitCommon_spec s a
  generalize splitCommon s a = sp at hs ha hdiff
  obtain ⟨restS, restA, common⟩ := sp
  cases restA with
  | nil => exact absurd ⟨restS, by rw [hs, ha, List.append_nil]⟩ h
  | cons l1 rc =>
    refine ⟨common, restS, l1, rc, hs, ha, fun hh => ?_⟩
    obtain ⟨t, ht⟩ := List.head?_eq_some_iff.mp hh
    exact hdiff l1 l1 t rc ht rfl rfl

theorem insertChild_descend (c : Node) (r sch : Bytes) (p : Int) (w : Bool) :
    insertChild c (c.suf ++ r) sch p w = insert c r sch p w := by
  cases c with
  | mk csuf cS cK =>
    rw [insertChild, Node.suf, splitCommon_unique csuf rfl (List.append_nil _).symm (fun _ _ _ _ _ h => nomatch h)]

/-- The split of `Tree.Insert` in closed form (`child'`, `grandChild1`, `grandChild2` there), the second `upsertEdge`
resolved by label order. -/
theorem insertChild_split_eq (common restS rc : Bytes) (l1 : Nat) (S : List (Bytes × List Int)) (K : List (Nat × Node))
    (sch : Bytes) (p : Int) (w : Bool) (hd : restS.head? ≠ some l1) :
    insertChild (.mk (common ++ l1 :: rc) S K) (common ++ restS) sch p w =
      match restS with
      | [] => .mk common (addPort [] sch p w) [(l1, .mk (l1 :: rc) S K)]
      | l2 :: _ => .mk common [] (if l2 < l1 then [(l2, leaf restS sch p w), (l1, .mk (l1 :: rc) S K)]
                                  else [(l1, .mk (l1 :: rc) S K), (l2, leaf restS sch p w)]) := by
  rw [insertChild, splitCommon_diverge common restS rc hd]
  cases restS with
  | nil => rfl
  | cons l2 rs =>
    simp only []
    rw [upsert_two l1 l2 _ _ fun hh => hd (by rw [hh]; rfl)]

/-- `ih` is `insert_inv` at the child, which the mutual recursion below supplies. -/
theorem insertChild_inv (c : Node) (ih : ∀ s sch p w, 0 ≤ p ∧ p ≤ 65536 → Inv (insert c s sch p w)) (hc : Inv c)
    (label : Nat) (srest : Bytes) (hhead : c.suf.head? = some label) (sch : Bytes) (p : Int) (w : Bool)
    (hp : 0 ≤ p ∧ p ≤ 65536) :
    Inv (insertChild c (label :: srest) sch p w) ∧ (insertChild c (label :: srest) sch p w).suf.head? = some label := by
  by_cases h : c.suf <+: label :: srest
  · obtain ⟨r, hr⟩ := h
    rw [← hr, insertChild_descend, insert_suf]
    exact ⟨ih r sch p w hp, hhead⟩
  · obtain ⟨common, restS, l1, rc, hs, hcs, hd⟩ := diverge_of_not_prefix h
    -- key and suffix both start with `label`, so the common part does
    have hcommon : common.head? = some label := by
      cases common with
      | nil => exact absurd ((congrArg List.head? hs).symm.trans ((congrArg List.head? hcs).symm.trans hhead).symm) hd
      | cons a t => exact (congrArg List.head? hs).symm
    cases c with
    | mk csuf cs ck =>
      obtain rfl : csuf = common ++ l1 :: rc := hcs
      rw [hs, insertChild_split_eq _ _ _ _ _ _ _ _ _ hd]
      have hgc : KidsInv [(l1, mk (l1 :: rc) cs ck)] := KidsInv_single l1 _ rfl (Inv_suf_irrel hc)
      cases restS with
      | nil => exact ⟨Inv_mk.mpr ⟨addPort_ok [] SchemesOK_nil sch p w hp, hgc⟩, hcommon⟩
      | cons l2 rs =>
        have hne : l2 ≠ l1 := fun hh => hd (by rw [hh]; rfl)
        have hleaf := leaf_inv (l2 :: rs) sch p w hp
        refine ⟨Inv_mk.mpr ⟨SchemesOK_nil, ?_⟩, hcommon⟩
        split
        · rename_i hlt
          exact KidsInv_cons.mpr ⟨rfl, hleaf, fun e he => by simp at he; rw [he]; exact hlt, hgc⟩
        · exact KidsInv_cons.mpr ⟨rfl, Inv_suf_irrel hc, fun e he => by simp at he; rw [he]; omega,
            KidsInv_single l2 _ rfl hleaf⟩

mutual
theorem insert_inv : (n : Node) → Inv n → ∀ (s sch : Bytes) (p : Int) (w : Bool), 0 ≤ p ∧ p ≤ 65536 →
    Inv (insert n s sch p w)
  | .mk suf S K, hinv, s, sch, p, w, hp => by
    obtain ⟨hS, hK⟩ := Inv_mk.mp hinv
    cases s with
    | nil => rw [insert]; exact Inv_mk.mpr ⟨addPort_ok S hS sch p w hp, hK⟩
    | cons label srest =>
      rw [insert]
      split
      · exact hinv
      · exact Inv_mk.mpr ⟨hS, insertKids_inv K hK label srest sch p w hp⟩

theorem insertKids_inv : (K : List (Nat × Node)) → KidsInv K → ∀ (label : Nat) (srest sch : Bytes) (p : Int) (w : Bool),
    0 ≤ p ∧ p ≤ 65536 → KidsInv (insertKids K label (label :: srest) sch p w)
  | [], _, label, srest, sch, p, w, hp => by
    rw [insertKids]; exact KidsInv_single label _ rfl (leaf_inv _ sch p w hp)
  | (l, c) :: rest, hinv, label, srest, sch, p, w, hp => by
    obtain ⟨hhead, hc, hlt, hrest⟩ := KidsInv_cons.mp hinv
    rw [insertKids]
    split
    · rename_i h1
      refine KidsInv_cons.mpr ⟨rfl, leaf_inv _ sch p w hp, fun e he => ?_, hinv⟩
      rcases List.mem_cons.mp he with rfl | he
      · exact h1
      · exact Nat.lt_trans h1 (hlt e he)
    · split
      · rename_i h2
        obtain rfl : label = l := by simpa using h2
        obtain ⟨hci, hch⟩ := insertChild_inv c (insert_inv c hc) hc label srest hhead sch p w hp
        exact KidsInv_cons.mpr ⟨hch, hci, hlt, hrest⟩
      · rename_i h1 h2
        have h2' : label ≠ l := by simpa using h2
        refine KidsInv_cons.mpr ⟨hhead, hc, fun e he => ?_, insertKids_inv rest hrest label srest sch p w hp⟩
        rcases insertKids_labels rest label _ sch p w e he with h | ⟨e', he', h⟩
        · omega
        · rw [h]; exact hlt e' he'
end

end Node
end Cors
