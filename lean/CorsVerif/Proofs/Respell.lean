import CorsVerif.Proofs.Twins
import CorsVerif.Proofs.Case
/-
  Re-spelt configurations (C15): entries that differ in the letter case of header names, in the
  spelling of a method that Fetch normalises, or that validation drops (safelisted methods and
  response-header names).  A dropped entry raises no error and is not kept; a re-spelt one is kept, and clean,
  exactly when the original is (Proofs/Case.lean).  Hence re-spelt configurations are twins (`Respelt.twin`); that
  they are accepted together is in Props/C15.lean.
-/
namespace Cors
open Gen Folds

/-- A safelisted method in any spelling (`GET`, `get`, `Post`): accepted and dropped. -/
def DroppedMethod (n : Bytes) : Prop :=
  (n == Validate.star) = false ∧ Methods.isValid n = true ∧ Methods.isSafelisted (Methods.normalize n) = true

/-- A safelisted response-header name in any spelling (`Cache-Control`): accepted and dropped. -/
def DroppedRes (n : Bytes) : Prop :=
  (n == Validate.star) = false ∧ Headers.isValid n = true ∧ Headers.isSafelistedResponseHeaderName n.lower = true

instance (n : Bytes) : Decidable (DroppedMethod n) := inferInstanceAs (Decidable (_ ∧ _ ∧ _))
instance (n : Bytes) : Decidable (DroppedRes n) := inferInstanceAs (Decidable (_ ∧ _ ∧ _))

theorem safelisted_res_clean (x : Bytes) (h : Headers.isSafelistedResponseHeaderName x = true) :
    Headers.isForbiddenResponseHeaderName x = false ∧ Headers.isProhibitedResponseHeaderName x = false := by
  unfold Headers.isSafelistedResponseHeaderName at h
  unfold Headers.isForbiddenResponseHeaderName Headers.isProhibitedResponseHeaderName
  rw [SortedSet.ofList_contains] at h ⊢
  rw [SortedSet.ofList_contains]
  have hx : x ∈ Facts.headers_safelistedResponseHeaderNames := by simpa using h
  have all : ∀ y ∈ Facts.headers_safelistedResponseHeaderNames,
      Facts.headers_forbiddenResponseHeaderNames.contains y = false ∧ Facts.headers_prohibitedResponseHeaderNames.contains y = false := by
    decide
  exact all x hx

theorem DroppedMethod.clean {n : Bytes} (h : DroppedMethod n) : methodErr n = [] := by
  unfold methodErr
  rw [h.1, h.2.1, h.2.2]
  rfl

theorem DroppedMethod.notGood {n : Bytes} (h : DroppedMethod n) : goodMethod n = false := by
  unfold Folds.goodMethod; rw [h.2.2]; simp

theorem DroppedRes.clean {n : Bytes} (h : DroppedRes n) (cred : Bool) : resHdrErr cred n = [] := by
  obtain ⟨h1, h2⟩ := safelisted_res_clean _ h.2.2
  unfold resHdrErr
  rw [h.1, h.2.1, h1, h2]
  rfl

theorem DroppedRes.notGood {n : Bytes} (h : DroppedRes n) : goodRes n = false := by
  unfold Folds.goodRes; rw [h.2.2]; simp

/-- `c2` says the same as `c1` in other words: the same scalars and origin patterns; every method and header
name of one is a spelling (`SameMethod`, `SameName`) of an entry of the other or — methods and response-header
names only — a safelisted entry, which validation drops.  Order and multiplicity are free. -/
structure Respelt (c1 c2 : Config) : Prop where
  credentialed : c1.credentialed = c2.credentialed
  maxAge : c1.maxAge = c2.maxAge
  status : c1.status = c2.status
  pna : c1.pna = c2.pna
  pnaNoCors : c1.pnaNoCors = c2.pnaNoCors
  tolInsecure : c1.tolInsecure = c2.tolInsecure
  tolPSL : c1.tolPSL = c2.tolPSL
  origins : ∀ raw, raw ∈ c1.origins ↔ raw ∈ c2.origins
  methods12 : ∀ n ∈ c1.methods, (∃ n' ∈ c2.methods, SameMethod n n') ∨ DroppedMethod n
  methods21 : ∀ n ∈ c2.methods, (∃ n' ∈ c1.methods, SameMethod n n') ∨ DroppedMethod n
  req12 : ∀ n ∈ c1.requestHeaders, ∃ n' ∈ c2.requestHeaders, SameName n n'
  req21 : ∀ n ∈ c2.requestHeaders, ∃ n' ∈ c1.requestHeaders, SameName n n'
  res12 : ∀ n ∈ c1.responseHeaders, (∃ n' ∈ c2.responseHeaders, SameName n n') ∨ DroppedRes n
  res21 : ∀ n ∈ c2.responseHeaders, (∃ n' ∈ c1.responseHeaders, SameName n n') ∨ DroppedRes n

theorem Respelt.symm {c1 c2 : Config} (h : Respelt c1 c2) : Respelt c2 c1 :=
  ⟨h.credentialed.symm, h.maxAge.symm, h.status.symm, h.pna.symm, h.pnaNoCors.symm, h.tolInsecure.symm, h.tolPSL.symm,
   fun r => (h.origins r).symm, h.methods21, h.methods12, h.req21, h.req12, h.res21, h.res12⟩

theorem Respelt.of_same_members {c1 c2 : Config}
    (hc : c1.credentialed = c2.credentialed) (hm : c1.maxAge = c2.maxAge) (hs : c1.status = c2.status)
    (hp : c1.pna = c2.pna) (hn : c1.pnaNoCors = c2.pnaNoCors) (hi : c1.tolInsecure = c2.tolInsecure)
    (hl : c1.tolPSL = c2.tolPSL)
    (ho : ∀ x, x ∈ c1.origins ↔ x ∈ c2.origins) (hme : ∀ x, x ∈ c1.methods ↔ x ∈ c2.methods)
    (hrq : ∀ x, x ∈ c1.requestHeaders ↔ x ∈ c2.requestHeaders)
    (hrs : ∀ x, x ∈ c1.responseHeaders ↔ x ∈ c2.responseHeaders) : Respelt c1 c2 :=
  ⟨hc, hm, hs, hp, hn, hi, hl, ho,
   fun n h => Or.inl ⟨n, (hme n).mp h, rfl⟩, fun n h => Or.inl ⟨n, (hme n).mpr h, rfl⟩,
   fun n h => ⟨n, (hrq n).mp h, rfl⟩, fun n h => ⟨n, (hrq n).mpr h, rfl⟩,
   fun n h => Or.inl ⟨n, (hrs n).mp h, rfl⟩, fun n h => Or.inl ⟨n, (hrs n).mpr h, rfl⟩⟩

theorem Respelt.refl (c : Config) : Respelt c c :=
  .of_same_members rfl rfl rfl rfl rfl rfl rfl (fun _ => .rfl) (fun _ => .rfl) (fun _ => .rfl) (fun _ => .rfl)

/-- Some entry of one list has `P` iff some entry of the other has, when `P` passes from an entry to its spellings and no
dropped entry has it.  Every field of `Twin` about a list, `origins` apart, is of this form. -/
theorem exists_iff_of_spellings {l1 l2 : List Bytes} {R : Bytes → Bytes → Prop} {D : Bytes → Prop} (P : Bytes → Prop)
    (h12 : ∀ n ∈ l1, (∃ n' ∈ l2, R n n') ∨ D n) (h21 : ∀ n ∈ l2, (∃ n' ∈ l1, R n n') ∨ D n)
    (hR : ∀ a b, R a b → P a → P b) (hD : ∀ a, D a → ¬P a) :
    (∃ n ∈ l1, P n) ↔ ∃ n ∈ l2, P n := by
  have key : ∀ {la lb : List Bytes}, (∀ n ∈ la, (∃ n' ∈ lb, R n n') ∨ D n) → (∃ n ∈ la, P n) → ∃ n ∈ lb, P n := by
    rintro la lb h ⟨n, hn, hp⟩
    rcases h n hn with ⟨n', hn', hr⟩ | hd
    · exact ⟨n', hn', hR n n' hr hp⟩
    · exact absurd hp (hD n hd)
  exact ⟨key h12, key h21⟩

theorem contains_star_iff (l : List Bytes) : l.contains Validate.star = true ↔ ∃ n ∈ l, (n == Validate.star) = true := by
  simp

theorem Respelt.twin {c1 c2 : Config} (h : Respelt c1 c2) : Twin c1 c2 where
  credentialed := h.credentialed
  maxAge := h.maxAge
  status := h.status
  pna := h.pna
  pnaNoCors := h.pnaNoCors
  tolInsecure := h.tolInsecure
  tolPSL := h.tolPSL
  origins := h.origins
  methodsStar := by
    rw [Bool.eq_iff_iff, contains_star_iff, contains_star_iff]
    exact exists_iff_of_spellings _ h.methods12 h.methods21 (fun _ _ r p => r.star ▸ p) (fun _ d p => by rw [d.1] at p; cases p)
  methods := fun x => exists_iff_of_spellings _ h.methods12 h.methods21 (fun _ _ r p => ⟨r.goodMethod ▸ p.1, p.2.trans r⟩)
    (fun _ d p => by rw [d.notGood] at p; cases p.1)
  reqStar := by
    rw [Bool.eq_iff_iff, contains_star_iff, contains_star_iff]
    exact exists_iff_of_spellings (D := fun _ => False) _ (fun n hn => Or.inl (h.req12 n hn)) (fun n hn => Or.inl (h.req21 n hn))
      (fun _ _ r p => r.star ▸ p) (fun _ d => d.elim)
  reqAuth := by
    rw [Bool.eq_iff_iff, List.any_eq_true, List.any_eq_true]
    exact exists_iff_of_spellings (D := fun _ => False) _ (fun n hn => Or.inl (h.req12 n hn)) (fun n hn => Or.inl (h.req21 n hn))
      (fun _ _ r p => r.isAuth ▸ p) (fun _ d => d.elim)
  req := fun x => exists_iff_of_spellings (D := fun _ => False) _ (fun n hn => Or.inl (h.req12 n hn))
    (fun n hn => Or.inl (h.req21 n hn)) (fun _ _ r p => ⟨r.goodReq ▸ p.1, p.2.trans r⟩) (fun _ d => d.elim)
  resStar := by
    rw [Bool.eq_iff_iff, contains_star_iff, contains_star_iff]
    exact exists_iff_of_spellings _ h.res12 h.res21 (fun _ _ r p => r.star ▸ p) (fun _ d p => by rw [d.1] at p; cases p)
  res := fun x => exists_iff_of_spellings _ h.res12 h.res21 (fun _ _ r p => ⟨r.goodRes ▸ p.1, p.2.trans r⟩)
    (fun _ d p => by rw [d.notGood] at p; cases p.1)

/-- Lists with the same members (any order, any multiplicity) make twins. -/
theorem Twin.of_same_members {c1 c2 : Config}
    (hc : c1.credentialed = c2.credentialed) (hm : c1.maxAge = c2.maxAge) (hs : c1.status = c2.status)
    (hp : c1.pna = c2.pna) (hn : c1.pnaNoCors = c2.pnaNoCors) (hi : c1.tolInsecure = c2.tolInsecure)
    (hl : c1.tolPSL = c2.tolPSL)
    (ho : ∀ x, x ∈ c1.origins ↔ x ∈ c2.origins) (hme : ∀ x, x ∈ c1.methods ↔ x ∈ c2.methods)
    (hrq : ∀ x, x ∈ c1.requestHeaders ↔ x ∈ c2.requestHeaders)
    (hrs : ∀ x, x ∈ c1.responseHeaders ↔ x ∈ c2.responseHeaders) : Twin c1 c2 :=
  (Respelt.of_same_members hc hm hs hp hn hi hl ho hme hrq hrs).twin

/-- Re-spelling the request-header names (e.g. changing their letter case) in a way that keeps the
byte-lowercased name makes a twin; `hstar` and `hvalid` follow from `hlower` and are not used. -/
theorem Twin.respell_requestHeaders (c : Config) (f : Bytes → Bytes)
    (hstar : ∀ n ∈ c.requestHeaders, (f n == Validate.star) = (n == Validate.star))
    (hvalid : ∀ n ∈ c.requestHeaders, Headers.isValid (f n) = Headers.isValid n)
    (hlower : ∀ n ∈ c.requestHeaders, (f n).lower = n.lower) :
    Twin { c with requestHeaders := c.requestHeaders.map f } c :=
  Respelt.twin { Respelt.refl c with
    req12 := fun n hn => by
      obtain ⟨m, hm, rfl⟩ := List.mem_map.mp hn
      exact ⟨m, hm, hlower m hm⟩
    req21 := fun n hn => ⟨f n, List.mem_map_of_mem hn, (hlower n hn).symm⟩ }

/-- Re-spelling the response-header names in a way that keeps the byte-lowercased name makes a twin; `hstar` and
`hvalid` follow from `hlower` and are not used. -/
theorem Twin.respell_responseHeaders (c : Config) (f : Bytes → Bytes)
    (hstar : ∀ n ∈ c.responseHeaders, (f n == Validate.star) = (n == Validate.star))
    (hvalid : ∀ n ∈ c.responseHeaders, Headers.isValid (f n) = Headers.isValid n)
    (hlower : ∀ n ∈ c.responseHeaders, (f n).lower = n.lower) :
    Twin { c with responseHeaders := c.responseHeaders.map f } c :=
  Respelt.twin { Respelt.refl c with
    res12 := fun n hn => by
      obtain ⟨m, hm, rfl⟩ := List.mem_map.mp hn
      exact Or.inl ⟨m, hm, hlower m hm⟩
    res21 := fun n hn => Or.inl ⟨f n, List.mem_map_of_mem hn, (hlower n hn).symm⟩ }

/-- Re-spelling methods in a way that keeps the normalised method (`get` for `GET`, …) makes a twin;
`hstar` and `hvalid` follow from `hnorm` and are not used. -/
theorem Twin.respell_methods (c : Config) (f : Bytes → Bytes)
    (hstar : ∀ n ∈ c.methods, (f n == Validate.star) = (n == Validate.star))
    (hvalid : ∀ n ∈ c.methods, Methods.isValid (f n) = Methods.isValid n)
    (hnorm : ∀ n ∈ c.methods, Methods.normalize (f n) = Methods.normalize n) :
    Twin { c with methods := c.methods.map f } c :=
  Respelt.twin { Respelt.refl c with
    methods12 := fun n hn => by
      obtain ⟨m, hm, rfl⟩ := List.mem_map.mp hn
      exact Or.inl ⟨m, hm, hnorm m hm⟩
    methods21 := fun n hn => Or.inl ⟨f n, List.mem_map_of_mem hn, (hnorm n hn).symm⟩ }

end Cors
