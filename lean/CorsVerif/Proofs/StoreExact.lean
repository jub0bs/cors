import CorsVerif.Proofs.StoreOwn
/-
  `Tree.Insert`, exactly: on a tree that satisfies the invariant, the stored entries after an
  insertion are a permutation of `absInsert (stored entries) (new entry)`.
-/
namespace Cors
namespace Node

theorem kids_keys (K : List (Nat × Node)) (x : Entry) (hx : x ∈ entriesKids K) : ∃ e ∈ K, e.2.suf <+: x.1 := by
  induction K with
  | nil => rw [entriesKids_nil] at hx; cases hx
  | cons e rest ih =>
    obtain ⟨l, c⟩ := e
    rw [entriesKids_cons] at hx
    rcases List.mem_append.mp hx with h | h
    · obtain ⟨e', _, rfl⟩ := List.mem_map.mp h
      exact ⟨(l, c), List.mem_cons_self, List.prefix_append _ _⟩
    · obtain ⟨e, he, h⟩ := ih h
      exact ⟨e, List.mem_cons_of_mem _ he, h⟩

theorem containsPort_anc (S : List (Bytes × List Int)) (hS : SchemesOK S) (sch : Bytes) (p : Int) (w : Bool)
    (hp : 0 ≤ p ∧ p ≤ 65536) :
    containsPort S sch p true = (own S).any (fun x => x.1 == sch && ancDrop x.2 (code p w)) := by
  rw [containsPort_eq_any S hS]
  simp only [ancDrop, (decode_code w hp).1, code_true, wildCode_true]

def ExactKidsSpec (K : List (Nat × Node)) : Prop :=
  KidsInv K → ∀ (label : Nat) (srest sch : Bytes) (p : Int) (w : Bool), 0 ≤ p ∧ p ≤ 65536 →
    (entriesKids (insertKids K label (label :: srest) sch p w)).Perm
      (absInsert (entriesKids K) (label :: srest, sch, code p w))

/-- In the split case every stored key of the child runs through the child's suffix, which is not a prefix of the
new key: all are `Apart` from it. -/
theorem insertChild_exact (c : Node) {sch : Bytes} {p : Int} {w : Bool}
    (ih : ∀ r, (entries (insert c r sch p w)).Perm (absInsert (entries c) (r, sch, code p w))) (s : Bytes) :
    (childEntries (insertChild c s sch p w)).Perm (absInsert (childEntries c) (s, sch, code p w)) := by
  by_cases h : c.suf <+: s
  · obtain ⟨r, rfl⟩ := h
    rw [insertChild_descend, childEntries, childEntries, insert_suf]
    exact ((ih r).map _).trans (absInsert_pre c.suf (entries c) (r, sch, code p w) ▸ .refl _)
  · rw [absInsert_apart]
    · exact insertChild_split c s sch p w h
    · intro x hx
      obtain ⟨e', _, rfl⟩ := List.mem_map.mp hx
      exact apart_of_not_prefix fun hh => h ((List.prefix_append _ _).trans hh)

mutual
theorem insert_exact (n : Node) (hn : Inv n) (s sch : Bytes) (p : Int) (w : Bool) (hp : 0 ≤ p ∧ p ≤ 65536) :
    (entries (insert n s sch p w)).Perm (absInsert (entries n) (s, sch, code p w)) := by
  match n, hn with
  | .mk suf S K, hinv =>
    obtain ⟨hS, hK⟩ := Inv_mk.mp hinv
    cases s with
    | nil =>
      rw [insert, entries_mk, entries_mk, absInsert_append_right]
      · exact (own_exact S hS sch p w hp).append_right _
      · intro x hx
        obtain ⟨e, he, h⟩ := kids_keys K x hx
        exact apart_of_label h (KidsInv_all hK he).1 (by simp)
    | cons label srest =>
      rw [insert]
      -- the node's own entries stop the deeper key exactly when the ancestor test fires, and it removes none of them
      have hany : ((own S).map ownE).any (drops · (label :: srest, sch, code p w)) = containsPort S sch p true := by
        rw [containsPort_anc S hS sch p w hp, List.any_map]
        congr 1
      have hdel : ∀ x ∈ (own S).map ownE, deletes (label :: srest, sch, code p w) x = false := by
        intro x hx
        obtain ⟨y, _, rfl⟩ := List.mem_map.mp hx
        simp [deletes, ownE]
      split
      · rename_i hcp
        rw [entries_mk]
        unfold absInsert
        rw [List.any_append, hany, hcp, Bool.true_or]
        exact List.Perm.refl _
      · rename_i hcp
        rw [entries_mk, entries_mk]
        refine List.Perm.trans ?_ (absInsert_append_left _ _ _ fun x hx => ⟨?_, hdel x hx⟩).symm
        · exact (exact_kids_spec K hK label srest sch p w hp).append_left _
        · have := List.any_eq_false.mp (by rw [hany]; simpa using hcp) x hx
          simpa using this

theorem exact_kids_spec : (K : List (Nat × Node)) → ExactKidsSpec K
  | [] => by
    intro _ label srest sch p w hp
    rw [insertKids, entriesKids_cons, entriesKids_nil, List.append_nil, leaf_childEntries]
    exact List.Perm.refl _
  | (l, c) :: rest => by
    intro hK label srest sch p w hp
    obtain ⟨hhead, hc, hlt, hrest⟩ := KidsInv_cons.mp hK
    -- the entries under the other edges are apart from the new key: their labels differ
    have hrestApart : label ≤ l → ∀ x ∈ entriesKids rest, Apart x (label :: srest, sch, code p w) := by
      intro hl x hx
      obtain ⟨e, he, h⟩ := kids_keys rest x hx
      have := hlt e he
      exact apart_of_label h (KidsInv_all hrest he).1 (by simp; omega)
    have hcApart : label ≠ l → ∀ x ∈ childEntries c, Apart x (label :: srest, sch, code p w) := by
      intro hl x hx
      obtain ⟨e', _, rfl⟩ := List.mem_map.mp hx
      exact apart_of_label (List.prefix_append _ _) hhead (by simpa using hl)
    rw [insertKids]
    split
    · rename_i hlab
      rw [entriesKids_cons, leaf_childEntries, absInsert_apart]
      · exact .refl _
      · intro x hx
        rw [entriesKids_cons] at hx
        exact (List.mem_append.mp hx).elim (hcApart (by omega) x) (hrestApart (by omega) x)
    · split
      · rename_i heq
        obtain rfl : label = l := by simpa using heq
        rw [entriesKids_cons, entriesKids_cons, absInsert_append_right _ _ _ (hrestApart (Nat.le_refl _))]
        exact (insertChild_exact c (fun r => insert_exact c hc r sch p w hp) _).append_right _
      · rename_i hneq
        rw [entriesKids_cons, entriesKids_cons]
        refine List.Perm.trans ?_ (absInsert_append_left _ _ _ (hcApart (by simpa using hneq))).symm
        exact (exact_kids_spec rest hrest label srest sch p w hp).append_left _
end

end Node
end Cors
