import CorsVerif.Spec.Browser
import CorsVerif.Proofs.ACRH
import CorsVerif.Proofs.Sets
import CorsVerif.Proofs.Tokens
/-
  A header list at its two ends.  The request-header list a browser sends (`unsafeNames`: sorted, unique), the
  shapes in which it may reach the server (`Tolerated`, statement vocabulary of C02 and C14) and what `headers.Check`
  answers on them (`check_tolerated`); what a browser extracts from the list-valued headers of the response
  (`extract_tolerated`).
-/
namespace Cors
open Gen Headers
namespace Browser

theorem insertUnique_spec (a : Bytes) (l : List Bytes) (hl : StrictSorted l) :
    StrictSorted (insertUnique a l) ∧ ∀ x, x ∈ insertUnique a l ↔ x = a ∨ x ∈ l := by
  have e : insertUnique a l = (SortedSet.add ⟨l, maxLenOf l⟩ a).elems := by
    unfold insertUnique SortedSet.add; split <;> rfl
  rw [e]
  exact ⟨(SortedSet.add_exact _ ⟨hl, rfl⟩ a).sorted, SortedSet.mem_add _ a⟩

theorem foldr_insertUnique (l : List Bytes) :
    StrictSorted (l.foldr insertUnique []) ∧ ∀ x, x ∈ l.foldr insertUnique [] ↔ x ∈ l := by
  induction l with
  | nil => exact ⟨List.Pairwise.nil, fun x => Iff.rfl⟩
  | cons a t ih =>
    simp only [List.foldr_cons]
    obtain ⟨h1, h2⟩ := insertUnique_spec a _ ih.1
    refine ⟨h1, fun x => ?_⟩
    rw [h2, ih.2, List.mem_cons]

theorem unsafeNames_spec (i : Intent) :
    StrictSorted (unsafeNames i) ∧ ∀ x, x ∈ unsafeNames i ↔ x ∈ i.headerNames.map Bytes.lower :=
  foldr_insertUnique _

/-- A token is one list element as it stands. -/
theorem valid_plain {t : Bytes} (h : isValid t = true) : t ≠ [] ∧ comma ∉ t ∧ ∀ b ∈ t, isOWS b = false :=
  ⟨valid_ne_nil h, valid_no_comma h, fun b hb => tchar_not_ows (valid_tchar h b hb)⟩

theorem dropWhile_pad {pre x : Bytes} (hp : pre = [] ∨ ∃ b, isOWS b = true ∧ pre = [b]) (hx : x.head?.any isOWS = false) :
    (pre ++ x).dropWhile isOWS = x :=
  (Bytes.takeWhile_append_stop pre x (by rcases hp with rfl | ⟨b, hb, rfl⟩ <;> simp [*]) (by cases x <;> simp_all)).2

theorem elem_strip {e t : Bytes} (h : Spec.elem e = some t) : stripOWS e = t := by
  obtain ⟨pre, suf, rfl, hpre, hsuf, hh, hl⟩ := ACRH.elem_decomp h
  have hsuf' : suf.reverse = [] ∨ ∃ b, isOWS b = true ∧ suf.reverse = [b] := by
    rcases hsuf with rfl | ⟨b, hb, rfl⟩
    · exact Or.inl rfl
    · exact Or.inr ⟨b, hb, rfl⟩
  unfold stripOWS
  cases t with
  | nil =>
    -- only padding: the second pass has nothing left to do
    rcases hpre with rfl | ⟨b, hb, rfl⟩ <;> rcases hsuf with rfl | ⟨c, hc, rfl⟩ <;> simp [List.dropWhile, *]
  | cons c s =>
    rw [List.append_assoc, dropWhile_pad hpre (by simpa using hh), List.reverse_append,
      dropWhile_pad hsuf' (by rw [List.head?_reverse]; exact hl), List.reverse_reverse]

theorem stripOWS_token {t : Bytes} (h : isValid t = true) : stripOWS t = t :=
  elem_strip (ACRH.elem_plain t (valid_plain h).2.2)

theorem names_strip {es ns : List Bytes} (h : Spec.names es = some ns) : es.map stripOWS = ns := by
  induction es generalizing ns with
  | nil => simp [Spec.names] at h; subst h; rfl
  | cons e es ih =>
    simp only [Spec.names] at h
    cases he : Spec.elem e with
    | none => simp [he] at h
    | some n =>
      cases hn : Spec.names es with
      | none => simp [he, hn] at h
      | some ns' =>
        simp only [he, hn, Option.some.injEq] at h
        subst h
        simp only [List.map_cons, elem_strip he, ih hn]

theorem extract_of_names (h : HdrMap) (name : Bytes) (lines ns : List Bytes) (hh : h name = some lines)
    (hnames : Spec.names (Spec.elements lines) = some ns)
    (hvalid : ∀ n ∈ ns, n ≠ [] → isValid n = true) :
    extractList h name = some (ns.filter (fun n => !n.isEmpty)) := by
  unfold extractList
  rw [hh]
  simp only []
  have : (lines.flatMap (Bytes.splitOn 44)).map stripOWS = ns := names_strip hnames
  rw [this]
  rw [if_pos]
  simp only [List.all_eq_true, List.mem_filter]
  rintro n ⟨hn, hne⟩
  apply hvalid n hn
  intro h0; subst h0; simp at hne

theorem extract_none (h : HdrMap) (name : Bytes) (hh : h name = none) : extractList h name = some [] := by
  unfold extractList; rw [hh]

/-- The browser's list `names`, as it may reach the server: re-split over several field lines,
with at most one OWS byte around each element and at most `MaxEmptyElements` empty elements. -/
def Tolerated (names : List Bytes) (lines : List Bytes) : Prop :=
  ∃ ns, Spec.names (Spec.elements lines) = some ns ∧ ns.filter (fun n => !n.isEmpty) = names ∧
    (ns.filter (fun n => n.isEmpty)).length ≤ Facts.headers_MaxEmptyElements

theorem tolerated_of_plain (names : List Bytes) (hnn : names ≠ [])
    (ht : ∀ n ∈ names, n ≠ [] ∧ comma ∉ n ∧ ∀ b ∈ n, isOWS b = false) :
    Tolerated names [Bytes.join comma names] := by
  have hel : Spec.elements [Bytes.join comma names] = names := by
    simp only [Spec.elements, List.flatMap_cons, List.flatMap_nil, List.append_nil]
    exact Bytes.splitOn_join comma names hnn (fun n hn => (ht n hn).2.1)
  obtain ⟨h1, h2⟩ := filter_nonempty (fun n hn => (ht n hn).1)
  exact ⟨names, by rw [hel]; exact ACRH.names_plain names (fun e he => (ht e he).2.2), h1, by rw [h2]; exact Nat.zero_le _⟩

theorem tolerated_of_valid (names : List Bytes) (hnn : names ≠ []) (ht : ∀ n ∈ names, isValid n = true) :
    Tolerated names [Bytes.join comma names] :=
  tolerated_of_plain names hnn (fun n hn => valid_plain (ht n hn))

theorem check_tolerated (set : SortedSet) (hwf : set.WF) (names lines : List Bytes)
    (hs : StrictSorted names) (ht : Tolerated names lines) :
    Headers.check set lines = names.all (fun n => set.elems.contains n) := by
  obtain ⟨ns, h1, h2, h3⟩ := ht
  rw [ACRH.check_eq_approved set hwf lines]
  unfold Spec.approved
  rw [h1]
  simp only [h2, decide_eq_true h3, Bool.true_and, (ACRH.strictSorted_iff names).mpr hs, Bool.and_true]

theorem extract_tolerated (h : HdrMap) (name : Bytes) (names lines : List Bytes) (hh : h name = some lines)
    (hv : ∀ n ∈ names, isValid n = true) (ht : Tolerated names lines) :
    extractList h name = some names := by
  obtain ⟨ns, h1, h2, _⟩ := ht
  rw [extract_of_names h name lines ns hh h1, h2]
  intro n hn hne
  apply hv
  rw [← h2, List.mem_filter]
  refine ⟨hn, ?_⟩
  cases n with
  | nil => exact absurd rfl hne
  | cons _ _ => rfl

theorem extract_join (h : HdrMap) (name : Bytes) (ns : List Bytes) (hnn : ns ≠ [])
    (hh : h name = some [Bytes.join comma ns]) (ht : ∀ n ∈ ns, isValid n = true) :
    extractList h name = some ns :=
  extract_tolerated h name ns _ hh ht (tolerated_of_valid ns hnn ht)

theorem extract_token (h : HdrMap) (name t : Bytes) (hh : h name = some [t]) (ht : isValid t = true) :
    extractList h name = some [t] :=
  extract_join h name [t] (by simp) hh (by simpa using ht)

end Browser
end Cors
