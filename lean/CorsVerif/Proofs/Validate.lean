import CorsVerif.Spec.Prohibitions
import CorsVerif.Proofs.Tables
import CorsVerif.Proofs.Accepted
import CorsVerif.Proofs.Case
/-
  The single-pass validators report exactly the per-element violations of the specification: an entry's
  errors are the specification's (`methodErr_eq`, `reqHdrErr_eq`, `resHdrErr_eq`, `rawErrs_eq`), and a validator's
  errors are its entries' (Proofs/Folds.lean).
-/
namespace Cors
open Gen

namespace ValidateProofs
open Validate Folds

theorem star_eq_spec : Validate.star = Spec.star := by decide

theorem leavesList_append {α : Type} (xs ys : List (ETree α)) :
    ETree.leavesList (xs ++ ys) = ETree.leavesList xs ++ ETree.leavesList ys := by
  induction xs with
  | nil => rfl
  | cons x xs ih => simp [ETree.leavesList, ih]

theorem leavesList_map_leaf {α : Type} (es : List α) : ETree.leavesList (es.map ETree.leaf) = es := by
  induction es with
  | nil => rfl
  | cons e es ih => simp [ETree.leavesList, ETree.leaves, ih]

theorem leaves_fieldErr (es : List CfgErr) : ETree.leavesList (fieldErr es) = es := by
  unfold fieldErr
  cases es with
  | nil => rfl
  | cons e es =>
    simp only [List.isEmpty_cons, Bool.false_eq_true, if_false, ETree.leavesList, ETree.leaves, List.append_nil]
    exact leavesList_map_leaf (e :: es)

/-! The code asks the safelist before the forbidden list, and reports a forbidden method after normalising it; the
specification has neither step.  Both are invisible because a forbidden method is neither safelisted nor normalised,
which is a fact about the three regenerated tables. -/

theorem isForbidden_normalize (n : Bytes) : Methods.isForbidden (Methods.normalize n) = Methods.isForbidden n := by
  unfold Methods.isForbidden
  rw [normalize_upper]

theorem normalize_of_forbidden {n : Bytes} (h : Methods.isForbidden n = true) : Methods.normalize n = n := by
  have tbl : ∀ m ∈ Facts.methods_byteUppercasedForbiddenMethods, Facts.methods_browserNormalizedMethods.contains m = false := by decide
  unfold Methods.isForbidden at h
  unfold Methods.normalize
  simp only []
  rw [SortedSet.ofList_contains] at h ⊢
  rw [tbl _ (List.contains_iff_mem.mp h)]
  rfl

theorem not_safelisted_of_forbidden {n : Bytes} (h : Methods.isForbidden n = true) : Methods.isSafelisted n = false := by
  have tbl : ∀ m ∈ Facts.methods_safelistedMethods, Facts.methods_byteUppercasedForbiddenMethods.contains m.upper = false := by decide
  unfold Methods.isForbidden at h
  unfold Methods.isSafelisted
  rw [SortedSet.ofList_contains] at h ⊢
  rw [← Bool.not_eq_true, List.contains_iff_mem]
  intro hs
  rw [tbl n hs] at h
  cases h

theorem methodErr_eq (name : Bytes) : methodErr name = Spec.methodViolations name := by
  unfold methodErr Spec.methodViolations Spec.isToken Methods.isValid
  rw [star_eq_spec, isForbidden_normalize, ← Methods.isForbidden_eq name]
  -- the same two tests with the same outcomes come first on both sides
  refine ite_congr rfl (fun _ => rfl) fun _ => ite_congr rfl (fun _ => rfl) fun _ => ?_
  by_cases hf : Methods.isForbidden name = true
  · rw [if_pos hf, if_pos hf, normalize_of_forbidden hf, if_neg (by rw [not_safelisted_of_forbidden hf]; exact Bool.false_ne_true)]
  · rw [if_neg hf, if_neg hf, ite_self]

theorem methods_violations (names : List Bytes) : (Validate.methods names).1 = names.flatMap Spec.methodViolations := by
  rw [methods_eq, funext methodErr_eq]

/-- Authorization is neither forbidden nor prohibited, so asking for it first (as the code does) changes no verdict. -/
theorem authorization_clean :
    Headers.isForbiddenRequestHeaderName Facts.headers_Authorization = false ∧
    Headers.isProhibitedRequestHeaderName Facts.headers_Authorization = false := by
  unfold Headers.isForbiddenRequestHeaderName Headers.isProhibitedRequestHeaderName
  rw [SortedSet.ofList_contains, SortedSet.ofList_contains]
  decide

theorem reqHdrErr_eq (name : Bytes) : reqHdrErr name = Spec.requestHeaderViolations name := by
  unfold reqHdrErr Spec.requestHeaderViolations Spec.isToken
  rw [star_eq_spec, ← Headers.isForbiddenReq_eq name.lower, ← Headers.isProhibitedReq_eq name.lower]
  refine ite_congr rfl (fun _ => rfl) fun _ => ite_congr rfl (fun _ => rfl) fun _ => ?_
  by_cases h3 : (name.lower == Facts.headers_Authorization) = true
  · rw [if_pos h3, beq_iff_eq.mp h3, authorization_clean.1, authorization_clean.2]
    rfl
  · rw [if_neg h3]

theorem requestHeaders_violations (cred : Bool) (names : List Bytes) :
    (Validate.requestHeaders cred names).1 = names.flatMap Spec.requestHeaderViolations := by
  rw [requestHeaders_eq, funext reqHdrErr_eq]

theorem resHdrErr_eq (cred : Bool) (name : Bytes) : resHdrErr cred name = Spec.responseHeaderViolations cred name := by
  unfold resHdrErr Spec.responseHeaderViolations
  rw [star_eq_spec, Headers.isForbiddenRes_eq, Headers.isProhibitedRes_eq]
  rfl

theorem responseHeaders_violations (cred : Bool) (names : List Bytes) :
    (Validate.responseHeaders cred names).1 = names.flatMap (Spec.responseHeaderViolations cred) := by
  rw [responseHeaders_eq, funext (resHdrErr_eq cred)]

theorem rawErrs_eq (ext : Ext) (cfg : Config) (raw : Bytes) :
    TreeRT.rawErrs ext cfg.credentialed (pnaAny cfg) cfg.tolInsecure cfg.tolPSL raw = Spec.originViolations ext cfg raw := by
  unfold TreeRT.rawErrs Spec.originViolations pnaAny
  rw [star_eq_spec]
  rfl

theorem status_errs (cfg : Config) : statusErrs cfg = (Spec.statusViolations cfg.status).map .leaf := by
  unfold statusErrs Spec.statusViolations
  rw [Validate.status_eq]
  simp only [Bool.or_eq_true, beq_iff_eq, Bool.and_eq_true, decide_eq_true_eq]
  by_cases h0 : cfg.status = 0
  · rw [if_pos h0, if_pos (Or.inl h0)]; rfl
  rw [if_neg h0]
  by_cases hb : 200 ≤ cfg.status ∧ cfg.status ≤ 299
  · rw [if_pos hb, if_pos (Or.inr hb)]; rfl
  · rw [if_neg hb, if_neg (by omega)]; rfl

theorem maxAge_errs (cfg : Config) : maxAgeErrs cfg = (Spec.maxAgeViolations cfg.maxAge).map .leaf := by
  unfold maxAgeErrs Spec.maxAgeViolations
  rw [Validate.maxAge_eq]
  simp only [Bool.and_eq_true, decide_eq_true_eq]
  by_cases h1 : cfg.maxAge < -1 ∨ 86400 < cfg.maxAge
  · rw [if_pos h1, if_neg (by omega)]; rfl
  · rw [if_neg h1, if_pos (show -1 ≤ cfg.maxAge ∧ cfg.maxAge ≤ 86400 by omega)]; rfl

theorem pna_errs (cfg : Config) : pnaErrs cfg = (Spec.pnaViolations cfg).map .leaf := by
  unfold pnaErrs Spec.pnaViolations
  split <;> rfl

theorem originErrs_leaves (ext : Ext) (cfg : Config) : ETree.leavesList (originErrs ext cfg) = Spec.originsViolations ext cfg := by
  rw [originErrs_eq, apply_ite ETree.leavesList, leaves_fieldErr, funext (rawErrs_eq ext cfg)]
  rfl

theorem originErrs_nil_iff_violations (ext : Ext) (cfg : Config) : originErrs ext cfg = [] ↔ Spec.originsViolations ext cfg = [] := by
  rw [originErrs_eq, Spec.originsViolations, ← funext (rawErrs_eq ext cfg)]
  split
  · simp
  · exact fieldErr_nil_iff _

/-- The errors `newInternalConfig` accumulates are the violations of the specification, in order and with multiplicity. -/
theorem allErrs_leaves (ext : Ext) (cfg : Config) : ETree.leavesList (allErrs ext cfg) = Spec.prohibitions ext cfg := by
  unfold allErrs Spec.prohibitions
  simp only [leavesList_append, status_errs, pna_errs, maxAge_errs, leavesList_map_leaf, originErrs_leaves, methodErrs, reqHdrErrs,
    resHdrErrs, leaves_fieldErr, methods_violations, requestHeaders_violations, responseHeaders_violations]

theorem allErrs_nil_iff_prohibitions (ext : Ext) (cfg : Config) : allErrs ext cfg = [] ↔ Spec.prohibitions ext cfg = [] := by
  unfold allErrs Spec.prohibitions methodErrs reqHdrErrs resHdrErrs
  simp only [List.append_eq_nil_iff, status_errs, pna_errs, maxAge_errs, List.map_eq_nil_iff, originErrs_nil_iff_violations, fieldErr_nil_iff,
    methods_violations, requestHeaders_violations, responseHeaders_violations]

theorem exists_accepted_iff_prohibitions (ext : Ext) (cfg : Config) :
    (∃ icfg, newInternalConfig ext cfg = .ok icfg) ↔ Spec.prohibitions ext cfg = [] :=
  (exists_accepted_iff ext cfg).trans (allErrs_nil_iff_prohibitions ext cfg)

end ValidateProofs
end Cors
