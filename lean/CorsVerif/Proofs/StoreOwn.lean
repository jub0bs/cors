import CorsVerif.Proofs.StoreAbs
/-
  The scheme table of one node: `node.add` realises `absInsert` on the node's own entries.
-/
namespace Cors
namespace Node

theorem insertSorted_perm (c : Int) (l : List Int) :
    (insertSorted (fun a b => decide (a < b)) c l).Perm (c :: l) :=
  _root_.Cors.insertSorted_perm _ c l

theorem while_neg_eq_filter (l : List Int) (h : SortedInts l) :
    l.takeWhile (· < 0) = l.filter (fun x => decide (x < 0)) ∧
    l.dropWhile (· < 0) = l.filter (fun x => !decide (x < 0)) := by
  induction l with
  | nil => exact ⟨rfl, rfl⟩
  | cons y ys ih =>
    obtain ⟨hy', hys⟩ := List.pairwise_cons.mp h
    by_cases hy : y < 0
    · rw [List.takeWhile_cons_of_pos (by simpa using hy), List.dropWhile_cons_of_pos (by simpa using hy),
        List.filter_cons_of_pos (by simpa using hy), List.filter_cons_of_neg (by simpa using hy), (ih hys).1, (ih hys).2]
      exact ⟨rfl, rfl⟩
    · have hrest : ∀ a ∈ ys, ¬ a < 0 := fun a ha => by have := hy' a ha; omega
      rw [List.takeWhile_cons_of_neg (by simpa using hy), List.dropWhile_cons_of_neg (by simpa using hy),
        List.filter_cons_of_neg (by simpa using hy), List.filter_cons_of_pos (by simpa using hy)]
      refine ⟨(List.filter_eq_nil_iff.mpr fun a ha => by simpa using hrest a ha).symm, ?_⟩
      rw [List.filter_eq_self.mpr fun a ha => by simpa using hrest a ha]

/-- Whether storing code `c` (a wildcard code when `isW`) keeps the stored code `c'` of the same scheme. -/
def keepCode (c : Int) (isW : Bool) (c' : Int) : Bool :=
  !(isW && (if c < 0 then decide (c' < 0) else decide (0 ≤ c')))

theorem newList_eq (ps : List Int) (hps : SortedInts ps) (c : Int) (isW : Bool) :
    (if isW then deleteSameSign ps c else ps) = ps.filter (keepCode c isW) := by
  cases isW with
  | false => exact (List.filter_eq_self.mpr fun a _ => by simp [keepCode]).symm
  | true =>
    obtain ⟨htake, hdrop⟩ := while_neg_eq_filter ps hps
    rw [if_pos rfl, deleteSameSign]
    split <;> rename_i hc
    · rw [hdrop]
      exact List.filter_congr fun a _ => by simp [keepCode, hc]
    · rw [htake]
      exact List.filter_congr fun a _ => by simp [keepCode, hc, ← Int.not_lt]

theorem own_filter_other {S : List (Bytes × List Int)} {sch : Bytes} (f : Int → Bool) (h : ∀ e ∈ S, e.1 ≠ sch) :
    (own S).filter (fun x => !(x.1 == sch) || f x.2) = own S := by
  rw [List.filter_eq_self]
  intro x hx
  obtain ⟨qs, hm, _⟩ := mem_own.mp hx
  simp [beq_false_of_ne (h _ hm)]

theorem filter_row (s sch : Bytes) (f : Int → Bool) (ps : List Int) :
    (ps.map (fun c' => (s, c'))).filter (fun x => !(x.1 == sch) || f x.2) =
      (if s == sch then ps.filter f else ps).map (fun c' => (s, c')) := by
  rw [List.filter_map]
  cases h : s == sch
  · rw [List.filter_eq_self.mpr fun a _ => by simp [h]]; rfl
  · simp [Function.comp_def, h]

theorem own_addScheme_perm (S : List (Bytes × List Int)) (hS : SchemesOK S) (sch : Bytes) (c : Int) (isW : Bool) :
    (own (addScheme sch c isW S)).Perm
      ((sch, c) :: (own S).filter (fun x => !(x.1 == sch) || keepCode c isW x.2)) := by
  fun_induction addScheme sch c isW S with
  | case1 => simp [own]
  | case2 s ps rest heq ps' =>
    -- found: the later keys are larger, so only this port list changes
    obtain ⟨hlt, hps, _⟩ := SchemesOK_cons.mp hS
    obtain rfl : s = sch := by simpa using heq
    rw [own_cons, own_cons, List.filter_append]
    rw [own_filter_other _ fun e he => (Bytes.lt_ne (hlt e he)).symm, filter_row, if_pos heq,
      show ps' = ps.filter (keepCode c isW) from newList_eq ps hps.sorted c isW]
    exact ((insertSorted_perm c (ps.filter (keepCode c isW))).map (fun c' => (s, c'))).append_right _
  | case3 s ps rest hne hlt' =>
    -- inserted before: every key is larger
    obtain ⟨hlt, _, _⟩ := SchemesOK_cons.mp hS
    rw [own_cons, own_filter_other _ fun e he => ?_]
    · exact .refl _
    · rcases List.mem_cons.mp he with rfl | he
      · exact (Bytes.lt_ne hlt').symm
      · exact (Bytes.lt_ne (Bytes.lt_trans hlt' (hlt e he))).symm
  | case4 s ps rest hne _ ih =>
    -- keep walking: this key is another scheme
    rw [own_cons, own_cons, List.filter_append]
    rw [filter_row, if_neg hne]
    exact ((ih (SchemesOK_tail hS)).append_left _).trans List.perm_middle

/-- `containsPort` with the already offset port, as `node.add` calls it: for a wildcard-subdomains entry
the doubly offset port is below every stored code, so only the wildcard port can answer. -/
theorem containsPort_code (S : List (Bytes × List Int)) (hS : SchemesOK S) (sch : Bytes) (p : Int) (w : Bool)
    (hp : 0 ≤ p ∧ p ≤ 65536) :
    containsPort S sch (code p w) w = (own S).any (fun x => x.1 == sch && sameDrop x.2 (code p w)) := by
  rw [containsPort_eq_any S hS]
  refine any_congr _ _ _ fun x hx => ?_
  have := own_range hS hx
  congr 1
  rw [Bool.eq_iff_iff]
  cases w <;> simp only [sameDrop, code_true, code_false, wildCode_true, wildCode_false, Bool.or_eq_true, beq_iff_eq]
  · rw [if_neg (by omega)]; simp
  · rw [if_pos (by omega)]; simp only [beq_iff_eq]; omega

/-- On a node's own entries (key `[]`) the filter of `absInsert` is the filter of `own_addScheme_perm`; of the two
wildcard codes, 65536 and -1, the sign of `code p w` leaves one possible. -/
theorem deletes_ownE (sch xs : Bytes) (xc p : Int) (w : Bool) (hp : 0 ≤ p ∧ p ≤ 65536) :
    (!deletes (([] : Bytes), sch, code p w) (([] : Bytes), xs, xc)) =
      (!(xs == sch) || keepCode (code p w) (code p w == wildCode w) xc) := by
  have hsym : (sch == xs) = (xs == sch) := by
    rw [Bool.eq_iff_iff, beq_iff_eq, beq_iff_eq]; exact eq_comm
  unfold deletes keepCode
  simp only [decide_true, Bool.true_and, hsym]
  cases hx : (xs == sch)
  · simp
  · cases w with
    | false =>
      rw [code_false, wildCode_false]
      have hn : (p == -1) = false := by simp; omega
      have hlt : ¬ p < 0 := by omega
      simp [hn, hlt]
    | true =>
      rw [code_true, wildCode_true]
      have hn : (p - 65537 == 65536) = false := by simp; omega
      have hlt : p - 65537 < 0 := by omega
      simp [hn, hlt]

theorem own_exact (S : List (Bytes × List Int)) (hS : SchemesOK S) (sch : Bytes) (p : Int) (w : Bool)
    (hp : 0 ≤ p ∧ p ≤ 65536) :
    ((own (addPort S sch p w)).map ownE).Perm (absInsert ((own S).map ownE) ([], sch, code p w)) := by
  unfold addPort absInsert
  rw [containsPort_code S hS sch p w hp, List.any_map]
  have hany : ((fun x => drops x ([], sch, code p w)) ∘ ownE) = (fun x => x.1 == sch && sameDrop x.2 (code p w)) := by
    funext x
    simp [drops, ownE]
  rw [hany]
  split
  · exact List.Perm.refl _
  · have h := (own_addScheme_perm S hS sch (code p w) (code p w == wildCode w)).map ownE
    rw [List.map_cons] at h
    refine h.trans ?_
    apply List.Perm.cons
    rw [List.filter_map]
    have : ((fun e' => !deletes ([], sch, code p w) e') ∘ ownE) =
        (fun x => !(x.1 == sch) || keepCode (code p w) (code p w == wildCode w) x.2) := by
      funext x
      exact deletes_ownE sch x.1 x.2 p w hp
    rw [this]

end Node
end Cors
