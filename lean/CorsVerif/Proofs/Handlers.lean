import CorsVerif.Proofs.Serve
import CorsVerif.Proofs.NamesNe
/-
  The two handlers of requests that are not preflights, each as one chain of optional writes: what is appended to Vary,
  and the value decided (or not) for Access-Control-Allow-Origin, -Allow-Credentials and -Expose-Headers.  Every fact
  about their responses (values, frame, Vary) is a lookup in `written`.
-/
namespace Cors
open Gen Serve NamesNe

/-- What both handlers append to `Vary`. -/
def varyValue (icfg : ICfg) (isOPTIONS : Bool) : Option Bytes :=
  if isOPTIONS then some Facts.headers_ValueVaryOptions
  else if !icfg.pnaNoCors && !icfg.tree.isEmpty then some Facts.headers_Origin else none

-- The values decided for the three headers: `nonCORSX` by `handleNonCORS`, `actualX` by `handleCORSActual`; `none`: X is
-- not written.
def nonCORSACAO (icfg : ICfg) : Option (List Bytes) :=
  if !icfg.pnaNoCors && icfg.tree.isEmpty then some [Facts.headers_ValueWildcard] else none

def nonCORSACEH (icfg : ICfg) : Option (List Bytes) :=
  if !icfg.pnaNoCors && icfg.tree.isEmpty && !icfg.aceh.isEmpty then some [icfg.aceh] else none

def actualACAO (dec : Dec) (icfg : ICfg) (o : Bytes) : Option (List Bytes) :=
  if icfg.pnaNoCors then none
  else if !icfg.credentialed && icfg.tree.isEmpty then some [Facts.headers_ValueWildcard]
  else if dec.allowed o then some [o] else none

def actualACAC (dec : Dec) (icfg : ICfg) (o : Bytes) : Option (List Bytes) :=
  if icfg.pnaNoCors || (!icfg.credentialed && icfg.tree.isEmpty) then none
  else if dec.allowed o && icfg.credentialed then some [Facts.headers_ValueTrue] else none

def actualACEH (dec : Dec) (icfg : ICfg) (o : Bytes) : Option (List Bytes) :=
  if (actualACAO dec icfg o).isSome && !icfg.aceh.isEmpty then some [icfg.aceh] else none

/-- The four optional writes, in the order in which both handlers perform them. -/
def written (h : HdrMap) (v : Option Bytes) (a c e : Option (List Bytes)) : HdrMap :=
  (((h.addOpt Facts.headers_Vary v).putOpt Facts.headers_ACAO a).putOpt Facts.headers_ACAC c).putOpt Facts.headers_ACEH e

-- An optional write of `none` reduces to the map itself, so each leaf is closed by unfolding.
theorem handleNonCORS_closed (icfg : ICfg) (h : HdrMap) (isOPTIONS : Bool) :
    handleNonCORS icfg h isOPTIONS = written h (varyValue icfg isOPTIONS) (nonCORSACAO icfg) none (nonCORSACEH icfg) := by
  unfold handleNonCORS written varyValue nonCORSACAO nonCORSACEH
  cases isOPTIONS <;> cases icfg.pnaNoCors <;> cases icfg.tree.isEmpty <;> cases icfg.aceh.isEmpty <;> rfl

theorem handleCORSActual_closed (dec : Dec) (icfg : ICfg) (h : HdrMap) (o : Bytes) (isOPTIONS : Bool) :
    handleCORSActual dec icfg h o isOPTIONS =
      written h (varyValue icfg isOPTIONS) (actualACAO dec icfg o) (actualACAC dec icfg o) (actualACEH dec icfg o) := by
  unfold handleCORSActual written varyValue actualACEH actualACAO actualACAC
  generalize icfg.tree.isEmpty = t
  generalize icfg.credentialed = c
  generalize dec.allowed o = a
  generalize icfg.aceh.isEmpty = e
  cases icfg.pnaNoCors with
  | true => cases isOPTIONS <;> rfl
  | false => cases isOPTIONS <;> cases t <;> cases c <;> cases a <;> cases e <;> rfl

theorem actual_decision {dec : Dec} {icfg : ICfg} {r : Req} {o : Bytes} (ho : r.hdrs.first Facts.headers_Origin = some o) :
    OriginDecision dec icfg r (actualACAO dec icfg o) (actualACAC dec icfg o) := by
  unfold actualACAO actualACAC
  cases icfg.pnaNoCors
  · cases hw : (!icfg.credentialed && icfg.tree.isEmpty)
    · cases ha : dec.allowed o
      · exact .nothing
      · exact .echo o ho ha
    · simp only [Bool.and_eq_true, Bool.not_eq_true'] at hw
      exact .star hw.2 hw.1
  · exact .nothing

/-- `handleNonCORS` writes `*` without testing `credentialed`: that an empty tree excludes it is well-formedness. -/
theorem nonCORS_decision {dec : Dec} {icfg : ICfg} {r : Req} (hwf : icfg.tree.isEmpty = true → icfg.credentialed = false) :
    OriginDecision dec icfg r (nonCORSACAO icfg) none := by
  unfold nonCORSACAO
  cases hc : (!icfg.pnaNoCors && icfg.tree.isEmpty)
  · exact .nothing
  · simp only [Bool.and_eq_true] at hc
    exact .star hc.2 (hwf hc.2)

theorem actualACAO_isSome (dec : Dec) (icfg : ICfg) (o : Bytes) :
    (actualACAO dec icfg o).isSome = (((icfg.tree.isEmpty && !icfg.credentialed) || dec.allowed o) && !icfg.pnaNoCors) := by
  unfold actualACAO
  cases icfg.pnaNoCors <;> cases icfg.credentialed <;> cases icfg.tree.isEmpty <;> cases dec.allowed o <;> rfl

theorem written_vary (h : HdrMap) (v : Option Bytes) (a c e : Option (List Bytes)) :
    written h v a c e Facts.headers_Vary = (h.addOpt Facts.headers_Vary v) Facts.headers_Vary := by
  unfold written
  rw [putOpt_other _ _ vary_aceh, putOpt_other _ _ vary_acac, putOpt_other _ _ vary_acao]

theorem written_acao (h : HdrMap) (v : Option Bytes) (a c e : Option (List Bytes)) :
    written h v a c e Facts.headers_ACAO = a.or (h Facts.headers_ACAO) := by
  unfold written
  rw [putOpt_other _ _ acao_aceh, putOpt_other _ _ acao_acac, putOpt_same, addOpt_other _ _ acao_vary]

theorem written_acac (h : HdrMap) (v : Option Bytes) (a c e : Option (List Bytes)) :
    written h v a c e Facts.headers_ACAC = c.or (h Facts.headers_ACAC) := by
  unfold written
  rw [putOpt_other _ _ acac_aceh, putOpt_same, putOpt_other _ _ acac_acao, addOpt_other _ _ acac_vary]

theorem written_aceh (h : HdrMap) (v : Option Bytes) (a c e : Option (List Bytes)) :
    written h v a c e Facts.headers_ACEH = e.or (h Facts.headers_ACEH) := by
  unfold written
  rw [putOpt_same, putOpt_other _ _ aceh_acac, putOpt_other _ _ aceh_acao, addOpt_other _ _ aceh_vary]

theorem written_other (h : HdrMap) (v : Option Bytes) (a c e : Option (List Bytes)) {n : Bytes}
    (hn : n ∉ [Facts.headers_Vary, Facts.headers_ACAO, Facts.headers_ACAC, Facts.headers_ACEH]) :
    written h v a c e n = h n := by
  simp only [List.mem_cons, List.not_mem_nil, or_false, not_or] at hn
  unfold written
  rw [putOpt_other _ _ hn.2.2.2, putOpt_other _ _ hn.2.2.1, putOpt_other _ _ hn.2.1, addOpt_other _ _ hn.1]

theorem nonPreflightHdrs_eq (dec : Dec) (icfg : ICfg) (r : Req) (pre : HdrMap) :
    ∃ a c e, nonPreflightHdrs dec icfg r pre = written pre (varyValue icfg (r.method == OPTIONS)) a c e := by
  unfold nonPreflightHdrs
  cases r.hdrs.first Facts.headers_Origin with
  | none => exact ⟨_, _, _, handleNonCORS_closed ..⟩
  | some o => exact ⟨_, _, _, handleCORSActual_closed ..⟩

end Cors
