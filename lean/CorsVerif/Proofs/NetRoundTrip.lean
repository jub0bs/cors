import CorsVerif.Model.Net
import CorsVerif.Proofs.NetFacts
import CorsVerif.Proofs.Bytes
/-
  The model of `net/netip`: parsing the canonical text of an address gives the address back
  (`fields (render6 gs) = some gs`), hence `ip6` reads the canonical text of an address that is not IPv4-mapped
  as zone-free, with itself as canonical form (`ip6_render`).  The text consists of hex digits and colons
  (`render6_text`, `render6_colon`): what the lexical tests of the pattern parser ask of it.
-/
namespace Cors
namespace Net

theorem hexVal_hexDigit : ∀ d < 16, hexVal (hexDigit d) = some d := by decide

theorem isHex_colon : isHex 58 = false := by decide

theorem hexDigits_read (ds : List Nat) (h : ∀ d ∈ ds, d < 16) :
    (ds.map hexDigit).all isHex = true ∧
      ∀ a, (ds.map hexDigit).foldl (fun acc c => 16 * acc + (hexVal c).getD 0) a = ds.foldl (fun acc d => 16 * acc + d) a := by
  induction ds with
  | nil => exact ⟨rfl, fun _ => rfl⟩
  | cons d t ih =>
    have hd := hexVal_hexDigit d (h d List.mem_cons_self)
    obtain ⟨i1, i2⟩ := ih (fun x hx => h x (List.mem_cons_of_mem _ hx))
    simp only [List.map_cons, List.all_cons, List.foldl_cons, isHex, hd, Option.isSome_some, Option.getD_some, Bool.true_and]
    exact ⟨i1, fun a => i2 _⟩

/-- What the parser needs to know of the text of one field. -/
structure IsField (x : Nat) (s : Bytes) : Prop where
  hex : s.all isHex = true
  ne : s ≠ []
  len : s.length ≤ 4
  value : hexValue s = x

theorem appendHex_field (x : Nat) (hx : x < 65536) : IsField x (appendHex x) := by
  have key : ∀ ds : List Nat, (∀ d ∈ ds, d < 16) → ds ≠ [] → ds.length ≤ 4 → ds.foldl (fun acc d => 16 * acc + d) 0 = x →
      IsField x (ds.map hexDigit) := by
    intro ds hd hne hlen hv
    obtain ⟨h1, h2⟩ := hexDigits_read ds hd
    exact ⟨h1, by simpa using hne, by simpa using hlen, (h2 0).trans hv⟩
  -- the base-16 expansion of `x`, one digit at a time
  have e1 : 16 * (x / 0x10) + x % 16 = x := Nat.div_add_mod x 16
  have e2 : 16 * (x / 0x100) + x / 0x10 % 16 = x / 0x10 := Nat.div_div_eq_div_mul x 0x10 16 ▸ Nat.div_add_mod (x / 0x10) 16
  have e3 : 16 * (x / 0x1000) + x / 0x100 % 16 = x / 0x100 := Nat.div_div_eq_div_mul x 0x100 16 ▸ Nat.div_add_mod (x / 0x100) 16
  have m : ∀ y, y % 16 < 16 := fun y => Nat.mod_lt y (by decide)
  unfold appendHex
  by_cases h3 : x ≥ 0x1000
  · rw [if_pos h3]
    exact key [x / 0x1000, x / 0x100 % 16, x / 0x10 % 16, x % 16]
      (by simp only [List.forall_mem_cons]; exact ⟨Nat.div_lt_of_lt_mul hx, m _, m _, m _, nofun⟩) nofun (by simp)
      (by simp only [List.foldl_cons, List.foldl_nil, Nat.mul_zero, Nat.zero_add, e3, e2, e1])
  rw [if_neg h3]
  by_cases h2 : x ≥ 0x100
  · rw [if_pos h2]
    exact key [x / 0x100, x / 0x10 % 16, x % 16]
      (by simp only [List.forall_mem_cons]; exact ⟨Nat.div_lt_of_lt_mul (Nat.lt_of_not_le h3), m _, m _, nofun⟩) nofun (by simp)
      (by simp only [List.foldl_cons, List.foldl_nil, Nat.mul_zero, Nat.zero_add, e2, e1])
  rw [if_neg h2]
  by_cases h1 : x ≥ 0x10
  · rw [if_pos h1]
    exact key [x / 0x10, x % 16]
      (by simp only [List.forall_mem_cons]; exact ⟨Nat.div_lt_of_lt_mul (Nat.lt_of_not_le h2), m _, nofun⟩) nofun (by simp)
      (by simp only [List.foldl_cons, List.foldl_nil, Nat.mul_zero, Nat.zero_add, e1])
  rw [if_neg h1]
  exact key [x] (by simp only [List.forall_mem_cons]; exact ⟨Nat.lt_of_not_le h1, nofun⟩) nofun (by simp) (by simp)

/-- What `loop` does once it has read a field and `rest` is left: a copy of that part of its body, which `loop_field`
identifies by unfolding. -/
def next (fuel : Nat) (groups : List Nat) (ell : Option Nat) : Bytes → Option (List Nat × Option Nat × Bytes)
  | [] => some (groups, ell, [])
  | c :: after =>
    if c != 58 then none
    else match after with
      | [] => none
      | c2 :: after2 =>
        if c2 == 58 then
          if ell.isSome then none
          else match after2 with
            | [] => some (groups, some groups.length, [])
            | _ => loop fuel groups (some groups.length) after2
        else loop fuel groups ell after

theorem next_colon (fuel : Nat) (g : List Nat) (ell : Option Nat) {c : Nat} (r : Bytes) (hc : c ≠ 58) :
    next fuel g ell (58 :: c :: r) = loop fuel g ell (c :: r) := by
  have : (c == 58) = false := by simpa using hc
  simp [next, this]

/-- What the parser does behind a `::`, with the fields `g` read so far. -/
def afterEll (fuel : Nat) (g : List Nat) : Bytes → Option (List Nat × Option Nat × Bytes)
  | [] => some (g, some g.length, [])
  | c :: t => loop fuel g (some g.length) (c :: t)

theorem next_ell (fuel : Nat) (g : List Nat) (t : Bytes) : next fuel g none (58 :: 58 :: t) = afterEll fuel g t := by
  cases t <;> rfl

theorem loop_field {h : Nat} {s : Bytes} (hs : IsField h s) (fuel : Nat) (pre : List Nat) (ell : Option Nat) (hpre : pre.length < 8)
    (tail : Bytes) (ht : tail = [] ∨ ∃ t, tail = 58 :: t) :
    loop (fuel + 1) pre ell (s ++ tail) = next fuel (pre ++ [h]) ell tail := by
  obtain ⟨h1, h2⟩ := Bytes.takeWhile_append_stop s tail hs.hex (by rcases ht with rfl | ⟨t, rfl⟩ <;> simp [isHex_colon])
  have hemp : s.isEmpty = false := by simpa using hs.ne
  have h46 : (tail.head? == some 46) = false := by rcases ht with rfl | ⟨t, rfl⟩ <;> rfl
  rw [loop, if_neg (by omega)]
  simp only [h1, h2, hemp, Nat.not_lt.mpr hs.len, decide_false, Bool.or_false, Bool.false_eq_true, if_false, h46, hs.value]
  unfold next
  rfl

/-- `:x:y:z` -/
def tailStr : List Nat → Bytes
  | [] => []
  | x :: t => 58 :: (appendHex x ++ tailStr t)

/-- Fields joined by single colons. -/
def joinHex : List Nat → Bytes
  | [] => []
  | x :: t => appendHex x ++ tailStr t

theorem tailStr_append (a b : List Nat) : tailStr (a ++ b) = tailStr a ++ tailStr b := by
  induction a with
  | nil => rfl
  | cons x t ih => simp only [List.cons_append, tailStr, ih, List.append_assoc]

theorem joinHex_head {hs : List Nat} (hh : ∀ h ∈ hs, h < 65536) (hne : hs ≠ []) (tail : Bytes) :
    ∃ c r, joinHex hs ++ tail = c :: r ∧ c ≠ 58 := by
  cases hs with
  | nil => exact absurd rfl hne
  | cons x l =>
    have hf := appendHex_field x (hh x List.mem_cons_self)
    cases hx : appendHex x with
    | nil => exact absurd hx hf.ne
    | cons c r =>
      refine ⟨c, r ++ tailStr l ++ tail, by simp [joinHex, hx], ?_⟩
      rintro rfl
      have := hf.hex
      rw [hx, List.all_cons, isHex_colon] at this
      cases this

/-- On fields written with single colons between them and followed by the end or by a `::`, `loop` reads them all
(`pre`: the fields read before; one unit of fuel per field) and leaves what follows to `next`. -/
theorem loop_joinHex (tail : Bytes) (ht : tail = [] ∨ ∃ t, tail = 58 :: 58 :: t) (hs : List Nat) (hh : ∀ h ∈ hs, h < 65536)
    (hne : hs ≠ []) : ∀ (fuel : Nat) (pre : List Nat) (ell : Option Nat), pre.length + hs.length ≤ 8 → hs.length ≤ fuel →
      loop fuel pre ell (joinHex hs ++ tail) = next (fuel - hs.length) (pre ++ hs) ell tail := by
  induction hs with
  | nil => exact absurd rfl hne
  | cons h rest ih =>
    intro fuel pre ell hlen hfuel
    simp only [List.length_cons] at hlen hfuel
    obtain ⟨f, rfl⟩ : ∃ f, fuel = f + 1 := ⟨fuel - 1, by omega⟩
    have hf := appendHex_field h (hh h List.mem_cons_self)
    cases rest with
    | nil =>
      rw [joinHex, tailStr, List.append_nil, loop_field hf f pre ell (by omega) tail (by rcases ht with h | ⟨t, h⟩ <;> simp [h])]
      simp
    | cons h2 t2 =>
      have hrest : ∀ x ∈ h2 :: t2, x < 65536 := fun x hx => hh x (List.mem_cons_of_mem _ hx)
      obtain ⟨c, r, hj, hc⟩ := joinHex_head hrest (by simp) tail
      have e : joinHex (h :: h2 :: t2) ++ tail = appendHex h ++ 58 :: (joinHex (h2 :: t2) ++ tail) := by
        simp [joinHex, tailStr]
      rw [e, loop_field hf f pre ell (by omega) _ (Or.inr ⟨_, rfl⟩), hj, next_colon _ _ _ _ hc]
      rw [← hj, ih hrest (by simp) f (pre ++ [h]) ell (by simp at hlen ⊢; omega) (by simp at hfuel ⊢; omega)]
      simp only [List.length_cons, List.append_assoc, List.singleton_append, Nat.add_sub_add_right]

/-- What `fields` does with the result of the loop: a copy of the end of its body (`fields_plain`, `fields_ell`). -/
def finish (r : Option (List Nat × Option Nat × Bytes)) : Option (List Nat) :=
  match r with
  | none => none
  | some (groups, ell, rest) =>
    if !rest.isEmpty then none
    else if groups.length < 8 then
      match ell with
      | none => none
      | some e => some (groups.take e ++ List.replicate (8 - groups.length) 0 ++ groups.drop e)
    else if ell.isSome then none
    else some groups

theorem fields_plain (c : Nat) (r : Bytes) (hc : c ≠ 58) : fields (c :: r) = finish (loop 9 [] none (c :: r)) := by
  unfold fields finish
  split
  · rename_i t heq
    simp only [List.cons.injEq] at heq
    exact absurd heq.1 hc
  · simp only [Option.isSome_none, Bool.false_and, Bool.false_eq_true, if_false]
    rfl

theorem fields_ell (t : Bytes) : fields (58 :: 58 :: t) = finish (afterEll 9 [] t) := by
  cases t with
  | nil => rfl
  | cons c t =>
    unfold fields finish
    simp only [Option.isSome_some, List.isEmpty_cons, Bool.and_false, Bool.false_eq_true, if_false]
    rfl

theorem fields_of_joinHex {hs : List Nat} (hh : ∀ h ∈ hs, h < 65536) (hne : hs ≠ []) (tail : Bytes) :
    fields (joinHex hs ++ tail) = finish (loop 9 [] none (joinHex hs ++ tail)) := by
  obtain ⟨c, r, hj, hc⟩ := joinHex_head hh hne tail
  rw [hj]
  exact fields_plain c r hc

theorem fields_joinHex (gs : List Nat) (hlt : ∀ g ∈ gs, g < 65536) (hlen : gs.length = 8) : fields (joinHex gs) = some gs := by
  have hne : gs ≠ [] := by rintro rfl; cases hlen
  rw [← List.append_nil (joinHex gs), fields_of_joinHex hlt hne,
    loop_joinHex [] (Or.inl rfl) gs hlt hne 9 [] none (by simp; omega) (by omega)]
  simp [next, finish, hlen]

theorem finish_afterEll (b : List Nat) (hb : ∀ g ∈ b, g < 65536) (fuel : Nat) (pre : List Nat)
    (h1 : pre.length + b.length < 8) (h2 : b.length ≤ fuel) :
    finish (afterEll fuel pre (joinHex b)) = some (pre ++ List.replicate (8 - (pre.length + b.length)) 0 ++ b) := by
  have : afterEll fuel pre (joinHex b) = some (pre ++ b, some pre.length, []) := by
    cases b with
    | nil => simp [joinHex, afterEll]
    | cons y l =>
      obtain ⟨c, r, hj, hc⟩ := joinHex_head hb (by simp) []
      have := loop_joinHex [] (Or.inl rfl) (y :: l) hb (by simp) fuel pre (some pre.length) (by omega) h2
      rw [hj] at this
      rw [List.append_nil] at hj
      rw [hj, afterEll, this, next]
  rw [this]
  simp [finish, h1]

theorem fields_compressed (a b : List Nat) (ha : ∀ g ∈ a, g < 65536) (hb : ∀ g ∈ b, g < 65536) (hlen : a.length + b.length < 8) :
    fields (joinHex a ++ 58 :: 58 :: joinHex b) = some (a ++ List.replicate (8 - (a.length + b.length)) 0 ++ b) := by
  cases a with
  | nil => exact (fields_ell _).trans (finish_afterEll b hb 9 [] hlen (by omega))
  | cons x l =>
    rw [fields_of_joinHex ha (by simp), loop_joinHex _ (Or.inr ⟨_, rfl⟩) (x :: l) ha (by simp) 9 [] none
      (by rw [List.length_nil]; omega) (by omega), next_ell]
    exact finish_afterEll b hb _ _ hlen (by omega)

theorem drop_eq_getD_cons {l : List Nat} {i : Nat} (h : i < l.length) : l.drop i = l.getD i 0 :: l.drop (i + 1) := by
  rw [getD_eq_getElem l i 0 h]; exact List.drop_eq_getElem_cons h

/-- `zs < i ∨ 8 ≤ zs`: past the compressed run, or there is none. -/
theorem render6Aux_tail (gs : List Nat) (hlen : gs.length = 8) (zs ze : Nat) : ∀ fuel i, 0 < i → (zs < i ∨ 8 ≤ zs) → 8 ≤ i + fuel → render6Aux gs zs ze fuel i = tailStr (gs.drop i) := by
  intro fuel
  induction fuel with
  | zero =>
    intro i _ _ hi
    rw [render6Aux, List.drop_eq_nil_of_le (by omega), tailStr]
  | succ f ih =>
    intro i h0 hz hi
    rw [render6Aux]
    by_cases h8 : i ≥ 8
    · rw [if_pos h8, List.drop_eq_nil_of_le (by omega), tailStr]
    · have hne : (i == zs) = false := by simp only [beq_eq_false_iff_ne, ne_eq]; omega
      rw [if_neg h8, hne, if_neg (by simp), if_pos h0, drop_eq_getD_cons (by omega), tailStr, ih (i + 1) (by omega) (by omega) (by omega)]
      simp

theorem render6Aux_run (gs : List Nat) (hlen : gs.length = 8) (zs ze fuel : Nat) (h1 : zs < ze) (h2 : ze ≤ 8) (hf : 8 ≤ ze + fuel) :
    render6Aux gs zs ze (fuel + 1) zs = 58 :: 58 :: joinHex (gs.drop ze) := by
  rw [render6Aux, if_neg (by omega), beq_self_eq_true, if_pos rfl]
  by_cases h8 : ze ≥ 8
  · rw [if_pos h8, List.drop_eq_nil_of_le (by omega)]; rfl
  · rw [if_neg h8, drop_eq_getD_cons (by omega), joinHex, render6Aux_tail gs hlen zs ze fuel (ze + 1) (by omega) (by omega) (by omega)]
    rfl

theorem render6Aux_head (gs : List Nat) (hlen : gs.length = 8) (zs ze : Nat) (h1 : zs < ze) (h2 : ze ≤ 8) : ∀ fuel i, 0 < i → i ≤ zs → 9 ≤ i + fuel →
    render6Aux gs zs ze fuel i = tailStr ((gs.take zs).drop i) ++ 58 :: 58 :: joinHex (gs.drop ze) := by
  intro fuel
  induction fuel with
  | zero => intro i _ _ _; omega
  | succ f ih =>
    intro i h0 hi hf
    by_cases hz : i = zs
    · subst hz
      rw [render6Aux_run gs hlen i ze f h1 h2 (by omega), List.drop_eq_nil_of_le (List.length_take_le _ _), tailStr, List.nil_append]
    · have hne : (i == zs) = false := by simpa using hz
      have hd : (gs.take zs).drop i = gs.getD i 0 :: (gs.take zs).drop (i + 1) := by
        rw [drop_eq_getD_cons (by simp; omega)]
        simp [List.getD_eq_getElem?_getD, show i < zs by omega]
      rw [render6Aux, if_neg (by omega), hne, if_neg (by simp), if_pos h0, hd, tailStr, ih (i + 1) (by omega) (by omega) (by omega)]
      simp

theorem zeroRun_take (l : List Nat) : zeroRun l ≤ l.length ∧ l.take (zeroRun l) = List.replicate (zeroRun l) 0 := by
  induction l with
  | nil => exact ⟨Nat.le_refl _, rfl⟩
  | cons x t ih =>
    cases x with
    | zero =>
      exact ⟨by simp only [zeroRun, List.length_cons]; omega, by simp only [zeroRun, List.take_succ_cons, List.replicate_succ, ih.2]⟩
    | succ n => simp [zeroRun]

/-- The run chosen by `appendTo6` (if any) lies inside the fields and consists of zeros. -/
def GoodRun (gs : List Nat) (r : Nat × Nat) : Prop :=
  r = (255, 255) ∨ (r.1 < r.2 ∧ r.2 ≤ gs.length ∧ (gs.drop r.1).take (r.2 - r.1) = List.replicate (r.2 - r.1) 0)

theorem bestRun_good (gs : List Nat) :
    ∀ (l : List Nat) (i : Nat) (best : Nat × Nat), gs.drop i = l → i + l.length = gs.length → GoodRun gs best →
      GoodRun gs (bestRun l i best) := by
  intro l
  induction l with
  | nil => intro i best _ _ hb; simpa [bestRun] using hb
  | cons g t ih =>
    intro i best hd hlen hb
    have hd' : gs.drop (i + 1) = t := by rw [← List.drop_drop, hd]; rfl
    rw [bestRun]
    apply ih (i + 1) _ hd' (by simp at hlen ⊢; omega)
    split
    · rename_i hc
      simp only [Bool.and_eq_true, decide_eq_true_eq] at hc
      obtain ⟨h1, h2⟩ := zeroRun_take (g :: t)
      exact Or.inr ⟨by simp only []; omega, by simp only []; omega, by simp only [Nat.add_sub_cancel_left, hd, h2]⟩
    · exact hb

theorem joinHex_eq {l : List Nat} (h : 0 < l.length) : joinHex l = appendHex (l.getD 0 0) ++ tailStr (l.drop 1) := by
  cases l with
  | nil => cases h
  | cons x t => rfl

theorem render6_eq (gs : List Nat) (hlen : gs.length = 8) :
    render6 gs = joinHex gs ∨
    ∃ zs ze, zs < ze ∧ ze ≤ 8 ∧ (gs.drop zs).take (ze - zs) = List.replicate (ze - zs) 0 ∧
      render6 gs = joinHex (gs.take zs) ++ 58 :: 58 :: joinHex (gs.drop ze) := by
  unfold render6
  have hg := bestRun_good gs gs 0 (255, 255) rfl (by simp) (Or.inl rfl)
  -- the first field is written without a colon
  have h0 : ∀ zs ze, zs ≠ 0 → render6Aux gs zs ze 9 0 = appendHex (gs.getD 0 0) ++ render6Aux gs zs ze 8 1 := by
    intro zs ze hz
    have : ((0 : Nat) == zs) = false := by simpa using hz.symm
    rw [render6Aux, if_neg (by omega), this, if_neg (by simp), if_neg (by omega), List.nil_append]
  cases hr : bestRun gs 0 (255, 255) with
  | mk zs ze =>
    rw [hr] at hg
    simp only []
    rcases hg with hnone | ⟨h1, h2, hz⟩
    · simp only [Prod.mk.injEq] at hnone
      obtain ⟨rfl, rfl⟩ := hnone
      left
      rw [h0 _ _ (by omega), render6Aux_tail gs hlen _ _ 8 1 (by omega) (by omega) (by omega), joinHex_eq (by omega)]
    · simp only [] at h1 h2 hz
      refine Or.inr ⟨zs, ze, h1, by omega, hz, ?_⟩
      by_cases hzs : zs = 0
      · subst hzs
        rw [render6Aux_run gs hlen 0 ze 8 h1 (by omega) (by omega)]; rfl
      · have e : (gs.take zs).getD 0 0 = gs.getD 0 0 := by
          simp [List.getD_eq_getElem?_getD, show 0 < zs by omega]
        rw [h0 _ _ hzs, render6Aux_head gs hlen zs ze h1 (by omega) 8 1 (by omega) (by omega) (by omega),
          joinHex_eq (l := gs.take zs) (by simp only [List.length_take]; omega), e, List.append_assoc]

/-- Parsing the canonical text of an address gives the address back (`render6` is `String()` outside the IPv4-mapped form). -/
theorem fields_render (gs : List Nat) (hlen : gs.length = 8) (hlt : ∀ g ∈ gs, g < 65536) :
    fields (render6 gs) = some gs := by
  rcases render6_eq gs hlen with h | ⟨zs, ze, h1, h2, hz, h⟩
  · rw [h, fields_joinHex gs hlt hlen]
  · rw [h, fields_compressed _ _ (fun g hg => hlt g (List.mem_of_mem_take hg)) (fun g hg => hlt g (List.mem_of_mem_drop hg))
      (by simp only [List.length_take, List.length_drop]; omega)]
    have e : 8 - ((gs.take zs).length + (gs.drop ze).length) = ze - zs := by
      simp only [List.length_take, List.length_drop]; omega
    rw [e, ← hz]
    conv => rhs; rw [← List.take_append_drop zs gs, ← List.take_append_drop (ze - zs) (gs.drop zs)]
    rw [List.drop_drop, show zs + (ze - zs) = ze by omega, List.append_assoc]

def textByte (b : Nat) : Prop := b = 58 ∨ isHex b = true

theorem tailStr_text {l : List Nat} (hlt : ∀ g ∈ l, g < 65536) : ∀ b ∈ tailStr l, textByte b := by
  induction l with
  | nil => intro b hb; cases hb
  | cons x t ih =>
    intro b hb
    simp only [tailStr, List.mem_cons, List.mem_append] at hb
    rcases hb with rfl | hb | hb
    · exact Or.inl rfl
    · exact Or.inr (List.all_eq_true.mp (appendHex_field x (hlt x List.mem_cons_self)).hex b hb)
    · exact ih (fun g hg => hlt g (List.mem_cons_of_mem _ hg)) b hb

theorem joinHex_text {l : List Nat} (hlt : ∀ g ∈ l, g < 65536) : ∀ b ∈ joinHex l, textByte b := by
  intro b hb
  have : b ∈ tailStr l := by
    cases l with
    | nil => cases hb
    | cons x t => exact List.mem_cons_of_mem _ hb
  exact tailStr_text hlt b this

theorem render6_text (gs : List Nat) (hlt : ∀ g ∈ gs, g < 65536) (hlen : gs.length = 8) : ∀ b ∈ render6 gs, textByte b := by
  intro b hb
  rcases render6_eq gs hlen with h | ⟨zs, ze, _, _, _, h⟩
  · rw [h] at hb; exact joinHex_text hlt b hb
  · rw [h] at hb
    simp only [List.mem_append, List.mem_cons] at hb
    rcases hb with hb | rfl | rfl | hb
    · exact joinHex_text (fun g hg => hlt g (List.mem_of_mem_take hg)) b hb
    · exact Or.inl rfl
    · exact Or.inl rfl
    · exact joinHex_text (fun g hg => hlt g (List.mem_of_mem_drop hg)) b hb

theorem textByte_ne {b : Nat} (h : textByte b) : b ≠ 37 ∧ b ≠ 46 ∧ b ≠ 93 ∧ b ≠ 42 := by
  rcases h with rfl | h
  · decide
  · refine ⟨?_, ?_, ?_, ?_⟩ <;> (intro hb; subst hb; revert h; decide)

theorem render6_colon (gs : List Nat) (hlen : gs.length = 8) (hlt : ∀ g ∈ gs, g < 65536) :
    (58 : Nat) ∈ render6 gs ∧ 2 ≤ (render6 gs).length := by
  rcases render6_eq gs hlen with h | ⟨zs, ze, _, _, _, h⟩
  · rw [h]
    obtain ⟨a, b, t, rfl⟩ : ∃ a b t, gs = a :: b :: t := by
      match gs, hlen with
      | a :: b :: t, _ => exact ⟨a, b, t, rfl⟩
    have := List.length_pos_iff.mpr (appendHex_field a (hlt a List.mem_cons_self)).ne
    simp [joinHex, tailStr]
    omega
  · rw [h]; simp; omega

theorem ip6_render (gs : List Nat) (hlen : gs.length = 8) (hlt : ∀ g ∈ gs, g < 65536) (h4 : is4in6 gs = false) :
    ip6 (render6 gs) = some { canon := render6 gs, zone := false, is4in6 := false,
                              loopback := gs == [0, 0, 0, 0, 0, 0, 0, 1] } := by
  have htext := render6_text gs hlt hlen
  have hcut : Bytes.cutAt 37 (render6 gs) = none :=
    Bytes.cutAt_eq_none.mpr fun hm => (textByte_ne (htext 37 hm)).1 rfl
  rw [ip6_no_zone hcut, fields_render gs hlen hlt]
  simp [infoOf, h4]

end Net
end Cors
