import CorsVerif.Model.Basic
import CorsVerif.Proofs.Lists
/-
  `insertSorted` and `sortBy` for any comparison `lt`: the result is a permutation of the input, and
  sorted insertion keeps a list sorted for any transitive relation that `lt` decides (`Bytes.lt` itself,
  `¬ b < a` for `Node.SortedB`, `≤` on `Int`).
-/
namespace Cors

variable {α : Type} {lt : α → α → Bool}

theorem insertSorted_perm (lt : α → α → Bool) (x : α) (l : List α) : (insertSorted lt x l).Perm (x :: l) := by
  fun_induction insertSorted lt x l with
  | case1 => exact .refl _
  | case2 y ys h => exact .refl _
  | case3 y ys h ih => exact (ih.cons y).trans (.swap x y ys)

theorem mem_insertSorted {x y : α} {l : List α} : y ∈ insertSorted lt x l ↔ y = x ∨ y ∈ l :=
  (insertSorted_perm lt x l).mem_iff.trans List.mem_cons

/-- `R` is the sortedness wanted: `lt x y` must give `R x y`, its failure `R y x` (only asked of the
elements of `l`, so that a strict `R` can use `x ∉ l`). -/
theorem insertSorted_pairwise {R : α → α → Prop} {x : α} {l : List α} (hl : l.Pairwise R)
    (hpos : ∀ y ∈ l, lt x y = true → R x y) (hneg : ∀ y ∈ l, lt x y = false → R y x)
    (htr : ∀ {a b c}, R a b → R b c → R a c) : (insertSorted lt x l).Pairwise R := by
  fun_induction insertSorted lt x l with
  | case1 => exact List.pairwise_singleton R x
  | case2 y ys h =>
    have hxy := hpos y List.mem_cons_self h
    refine List.pairwise_cons.mpr ⟨fun a ha => ?_, hl⟩
    rcases List.mem_cons.mp ha with rfl | ha
    · exact hxy
    · exact htr hxy ((List.pairwise_cons.mp hl).1 a ha)
  | case3 y ys h ih =>
    obtain ⟨hy, hys⟩ := List.pairwise_cons.mp hl
    have hyx := hneg y List.mem_cons_self (by simpa using h)
    refine List.pairwise_cons.mpr ⟨fun a ha => ?_,
      ih hys (fun z hz => hpos z (List.mem_cons_of_mem _ hz)) (fun z hz => hneg z (List.mem_cons_of_mem _ hz))⟩
    rcases mem_insertSorted.mp ha with rfl | ha
    · exact hyx
    · exact hy a ha

theorem sortBy_perm (lt : α → α → Bool) (l : List α) : (sortBy lt l).Perm l := by
  induction l with
  | nil => exact .refl _
  | cons x xs ih => exact (insertSorted_perm lt x _).trans (ih.cons x)

end Cors
