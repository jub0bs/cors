import CorsVerif.Gen.Facts
/- The eight response-header names are pairwise distinct: one lemma per ordered pair, by `decide` over the regenerated
   constants. -/
namespace Cors.NamesNe
open Cors.Gen

@[simp] theorem vary_acao : Facts.headers_Vary ≠ Facts.headers_ACAO := by decide
@[simp] theorem vary_acac : Facts.headers_Vary ≠ Facts.headers_ACAC := by decide
@[simp] theorem vary_acam : Facts.headers_Vary ≠ Facts.headers_ACAM := by decide
@[simp] theorem vary_acah : Facts.headers_Vary ≠ Facts.headers_ACAH := by decide
@[simp] theorem vary_acapn : Facts.headers_Vary ≠ Facts.headers_ACAPN := by decide
@[simp] theorem vary_acma : Facts.headers_Vary ≠ Facts.headers_ACMA := by decide
@[simp] theorem vary_aceh : Facts.headers_Vary ≠ Facts.headers_ACEH := by decide
@[simp] theorem acao_vary : Facts.headers_ACAO ≠ Facts.headers_Vary := by decide
@[simp] theorem acao_acac : Facts.headers_ACAO ≠ Facts.headers_ACAC := by decide
@[simp] theorem acao_acam : Facts.headers_ACAO ≠ Facts.headers_ACAM := by decide
@[simp] theorem acao_acah : Facts.headers_ACAO ≠ Facts.headers_ACAH := by decide
@[simp] theorem acao_acapn : Facts.headers_ACAO ≠ Facts.headers_ACAPN := by decide
@[simp] theorem acao_acma : Facts.headers_ACAO ≠ Facts.headers_ACMA := by decide
@[simp] theorem acao_aceh : Facts.headers_ACAO ≠ Facts.headers_ACEH := by decide
@[simp] theorem acac_vary : Facts.headers_ACAC ≠ Facts.headers_Vary := by decide
@[simp] theorem acac_acao : Facts.headers_ACAC ≠ Facts.headers_ACAO := by decide
@[simp] theorem acac_acam : Facts.headers_ACAC ≠ Facts.headers_ACAM := by decide
@[simp] theorem acac_acah : Facts.headers_ACAC ≠ Facts.headers_ACAH := by decide
@[simp] theorem acac_acapn : Facts.headers_ACAC ≠ Facts.headers_ACAPN := by decide
@[simp] theorem acac_acma : Facts.headers_ACAC ≠ Facts.headers_ACMA := by decide
@[simp] theorem acac_aceh : Facts.headers_ACAC ≠ Facts.headers_ACEH := by decide
@[simp] theorem acam_vary : Facts.headers_ACAM ≠ Facts.headers_Vary := by decide
@[simp] theorem acam_acao : Facts.headers_ACAM ≠ Facts.headers_ACAO := by decide
@[simp] theorem acam_acac : Facts.headers_ACAM ≠ Facts.headers_ACAC := by decide
@[simp] theorem acam_acah : Facts.headers_ACAM ≠ Facts.headers_ACAH := by decide
@[simp] theorem acam_acapn : Facts.headers_ACAM ≠ Facts.headers_ACAPN := by decide
@[simp] theorem acam_acma : Facts.headers_ACAM ≠ Facts.headers_ACMA := by decide
@[simp] theorem acam_aceh : Facts.headers_ACAM ≠ Facts.headers_ACEH := by decide
@[simp] theorem acah_vary : Facts.headers_ACAH ≠ Facts.headers_Vary := by decide
@[simp] theorem acah_acao : Facts.headers_ACAH ≠ Facts.headers_ACAO := by decide
@[simp] theorem acah_acac : Facts.headers_ACAH ≠ Facts.headers_ACAC := by decide
@[simp] theorem acah_acam : Facts.headers_ACAH ≠ Facts.headers_ACAM := by decide
@[simp] theorem acah_acapn : Facts.headers_ACAH ≠ Facts.headers_ACAPN := by decide
@[simp] theorem acah_acma : Facts.headers_ACAH ≠ Facts.headers_ACMA := by decide
@[simp] theorem acah_aceh : Facts.headers_ACAH ≠ Facts.headers_ACEH := by decide
@[simp] theorem acapn_vary : Facts.headers_ACAPN ≠ Facts.headers_Vary := by decide
@[simp] theorem acapn_acao : Facts.headers_ACAPN ≠ Facts.headers_ACAO := by decide
@[simp] theorem acapn_acac : Facts.headers_ACAPN ≠ Facts.headers_ACAC := by decide
@[simp] theorem acapn_acam : Facts.headers_ACAPN ≠ Facts.headers_ACAM := by decide
@[simp] theorem acapn_acah : Facts.headers_ACAPN ≠ Facts.headers_ACAH := by decide
@[simp] theorem acapn_acma : Facts.headers_ACAPN ≠ Facts.headers_ACMA := by decide
@[simp] theorem acapn_aceh : Facts.headers_ACAPN ≠ Facts.headers_ACEH := by decide
@[simp] theorem acma_vary : Facts.headers_ACMA ≠ Facts.headers_Vary := by decide
@[simp] theorem acma_acao : Facts.headers_ACMA ≠ Facts.headers_ACAO := by decide
@[simp] theorem acma_acac : Facts.headers_ACMA ≠ Facts.headers_ACAC := by decide
@[simp] theorem acma_acam : Facts.headers_ACMA ≠ Facts.headers_ACAM := by decide
@[simp] theorem acma_acah : Facts.headers_ACMA ≠ Facts.headers_ACAH := by decide
@[simp] theorem acma_acapn : Facts.headers_ACMA ≠ Facts.headers_ACAPN := by decide
@[simp] theorem acma_aceh : Facts.headers_ACMA ≠ Facts.headers_ACEH := by decide
@[simp] theorem aceh_vary : Facts.headers_ACEH ≠ Facts.headers_Vary := by decide
@[simp] theorem aceh_acao : Facts.headers_ACEH ≠ Facts.headers_ACAO := by decide
@[simp] theorem aceh_acac : Facts.headers_ACEH ≠ Facts.headers_ACAC := by decide
@[simp] theorem aceh_acam : Facts.headers_ACEH ≠ Facts.headers_ACAM := by decide
@[simp] theorem aceh_acah : Facts.headers_ACEH ≠ Facts.headers_ACAH := by decide
@[simp] theorem aceh_acapn : Facts.headers_ACEH ≠ Facts.headers_ACAPN := by decide
@[simp] theorem aceh_acma : Facts.headers_ACEH ≠ Facts.headers_ACMA := by decide

end Cors.NamesNe
