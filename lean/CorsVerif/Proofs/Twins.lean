import CorsVerif.Proofs.Accepted
/-
  Twins (C15): when two configurations mean the same thing.  Twin configurations have equal method
  and header validator results and equal sets of parsed patterns; that they build the same handler
  is `C15_full` (Props/C15.lean).
-/
namespace Cors
open Gen Folds

/-- Two configurations are **twins** when their scalar fields agree and their four lists have the
same meaning as sets: the same origin patterns, and the same entries that validation keeps, taken
after normalisation (methods) or byte-lowercasing (header names), with `*` — and, among the request
headers, a spelling of Authorization — listed by both or by neither.  Reordering, duplicating,
re-casing header names and re-spelling a normalisable method produce twins (`Twin.of_same_members`,
`Twin.respell_*`), and so does listing entries that validation drops (`Twin.add_safelisted_method`; for
response-header names as well, `Respelt.twin`): all but the third stand in Proofs/Respell.lean. -/
structure Twin (c1 c2 : Config) : Prop where
  credentialed : c1.credentialed = c2.credentialed
  maxAge : c1.maxAge = c2.maxAge
  status : c1.status = c2.status
  pna : c1.pna = c2.pna
  pnaNoCors : c1.pnaNoCors = c2.pnaNoCors
  tolInsecure : c1.tolInsecure = c2.tolInsecure
  tolPSL : c1.tolPSL = c2.tolPSL
  origins : ∀ raw, raw ∈ c1.origins ↔ raw ∈ c2.origins
  methodsStar : c1.methods.contains Validate.star = c2.methods.contains Validate.star
  methods : ∀ x, (∃ n ∈ c1.methods, goodMethod n = true ∧ x = Methods.normalize n) ↔
                 (∃ n ∈ c2.methods, goodMethod n = true ∧ x = Methods.normalize n)
  reqStar : c1.requestHeaders.contains Validate.star = c2.requestHeaders.contains Validate.star
  reqAuth : c1.requestHeaders.any isAuth = c2.requestHeaders.any isAuth
  req : ∀ x, (∃ n ∈ c1.requestHeaders, goodReq n = true ∧ x = n.lower) ↔
             (∃ n ∈ c2.requestHeaders, goodReq n = true ∧ x = n.lower)
  resStar : c1.responseHeaders.contains Validate.star = c2.responseHeaders.contains Validate.star
  res : ∀ x, (∃ n ∈ c1.responseHeaders, goodRes n = true ∧ x = n.lower) ↔
             (∃ n ∈ c2.responseHeaders, goodRes n = true ∧ x = n.lower)

theorem contains_congr {l1 l2 : List Bytes} (h : ∀ x, x ∈ l1 ↔ x ∈ l2) (a : Bytes) : l1.contains a = l2.contains a := by
  simp [h]

/-- The fields of `Twin` speak of the members of the filtered, normalised lists. -/
theorem exists_iff_mem_filter_map (l : List Bytes) (g : Bytes → Bool) (f : Bytes → Bytes) (x : Bytes) :
    (∃ n ∈ l, g n = true ∧ x = f n) ↔ x ∈ (l.filter g).map f := by
  simp only [List.mem_map, List.mem_filter]
  constructor
  · rintro ⟨n, hn, hg, rfl⟩; exact ⟨n, ⟨hn, hg⟩, rfl⟩
  · rintro ⟨n, ⟨hn, hg⟩, rfl⟩; exact ⟨n, hn, hg, rfl⟩

theorem methods_twin {l1 l2 : List Bytes} (hs : l1.contains Validate.star = l2.contains Validate.star)
    (hm : ∀ x, (∃ n ∈ l1, goodMethod n = true ∧ x = Methods.normalize n) ↔ (∃ n ∈ l2, goodMethod n = true ∧ x = Methods.normalize n)) :
    (Validate.methods l1).2 = (Validate.methods l2).2 := by
  simp only [exists_iff_mem_filter_map] at hm
  rw [methods_eq, methods_eq, hs, SortedSet.ofList_congr hm]

theorem mem_keepReq (l : List Bytes) (x : Bytes) :
    x ∈ (l.filter keepReq).map Bytes.lower ↔
      (∃ n ∈ l, goodReq n = true ∧ x = n.lower) ∨ (l.any isAuth = true ∧ x = Facts.headers_Authorization) := by
  simp only [List.mem_map, List.mem_filter, keepReq, Bool.or_eq_true, List.any_eq_true]
  constructor
  · rintro ⟨n, ⟨hn, hg | ha⟩, rfl⟩
    · exact Or.inl ⟨n, hn, hg, rfl⟩
    · exact Or.inr ⟨⟨n, hn, ha⟩, isAuth_lower ha⟩
  · rintro (⟨n, hn, hg, rfl⟩ | ⟨⟨n, hn, ha⟩, rfl⟩)
    · exact ⟨n, ⟨hn, Or.inl hg⟩, rfl⟩
    · exact ⟨n, ⟨hn, Or.inr ha⟩, isAuth_lower ha⟩

theorem requestHeaders_twin (cred : Bool) {l1 l2 : List Bytes}
    (hs : l1.contains Validate.star = l2.contains Validate.star) (hau : l1.any isAuth = l2.any isAuth)
    (hm : ∀ x, (∃ n ∈ l1, goodReq n = true ∧ x = n.lower) ↔ (∃ n ∈ l2, goodReq n = true ∧ x = n.lower)) :
    (Validate.requestHeaders cred l1).2 = (Validate.requestHeaders cred l2).2 := by
  have hk : ∀ x, x ∈ (l1.filter keepReq).map Bytes.lower ↔ x ∈ (l2.filter keepReq).map Bytes.lower := fun x => by
    rw [mem_keepReq, mem_keepReq, hm, hau]
  rw [requestHeaders_eq, requestHeaders_eq, hs, hau, SortedSet.ofList_congr hk]

theorem responseHeaders_twin (cred : Bool) {l1 l2 : List Bytes}
    (hs : l1.contains Validate.star = l2.contains Validate.star)
    (hm : ∀ x, (∃ n ∈ l1, goodRes n = true ∧ x = n.lower) ↔ (∃ n ∈ l2, goodRes n = true ∧ x = n.lower)) :
    (Validate.responseHeaders cred l1).2 = (Validate.responseHeaders cred l2).2 := by
  simp only [exists_iff_mem_filter_map] at hm
  rw [responseHeaders_eq, responseHeaders_eq, hs, SortedSet.ofList_congr hm]

theorem accepted_tree_star (ext : Ext) (cfg : Config) (icfg : ICfg) (acc : newInternalConfig ext cfg = .ok icfg)
    (hs : cfg.origins.contains Validate.star = true) : icfg.tree = Node.empty := by
  obtain ⟨herrs, rfl⟩ := (accepted_iff ext cfg icfg).mp acc
  rw [accepted_tree, if_pos hs]

theorem parsedPatterns_congr (ext : Ext) {l1 l2 : List Bytes} (h : ∀ x, x ∈ l1 ↔ x ∈ l2) (p : Pattern) :
    p ∈ parsedPatterns ext l1 ↔ p ∈ parsedPatterns ext l2 := by
  simp only [TreeRT.mem_parsed, h]

theorem Twin.refl (c : Config) : Twin c c :=
  ⟨rfl, rfl, rfl, rfl, rfl, rfl, rfl, fun _ => Iff.rfl, rfl, fun _ => Iff.rfl, rfl, rfl, fun _ => Iff.rfl, rfl, fun _ => Iff.rfl⟩

theorem Twin.symm {c1 c2 : Config} (h : Twin c1 c2) : Twin c2 c1 :=
  ⟨h.credentialed.symm, h.maxAge.symm, h.status.symm, h.pna.symm, h.pnaNoCors.symm, h.tolInsecure.symm, h.tolPSL.symm,
   fun x => (h.origins x).symm, h.methodsStar.symm, fun x => (h.methods x).symm, h.reqStar.symm, h.reqAuth.symm,
   fun x => (h.req x).symm, h.resStar.symm, fun x => (h.res x).symm⟩

theorem Twin.trans {c1 c2 c3 : Config} (h : Twin c1 c2) (g : Twin c2 c3) : Twin c1 c3 :=
  ⟨h.credentialed.trans g.credentialed, h.maxAge.trans g.maxAge, h.status.trans g.status, h.pna.trans g.pna,
   h.pnaNoCors.trans g.pnaNoCors, h.tolInsecure.trans g.tolInsecure, h.tolPSL.trans g.tolPSL,
   fun x => (h.origins x).trans (g.origins x), h.methodsStar.trans g.methodsStar, fun x => (h.methods x).trans (g.methods x),
   h.reqStar.trans g.reqStar, h.reqAuth.trans g.reqAuth, fun x => (h.req x).trans (g.req x), h.resStar.trans g.resStar,
   fun x => (h.res x).trans (g.res x)⟩

/-- Adding entries that validation drops silently (safelisted methods) makes a twin. -/
theorem Twin.add_safelisted_method (c : Config) (m : Bytes) (hs : (m == Validate.star) = false)
    (hsafe : Methods.isSafelisted (Methods.normalize m) = true) :
    Twin { c with methods := m :: c.methods } c :=
  { Twin.refl c with
    methodsStar := by
      show (m :: c.methods).contains Validate.star = _
      rw [List.contains_cons, BEq.comm, hs, Bool.false_or]
    methods := fun x => by
      show (∃ n ∈ m :: c.methods, _) ↔ _
      simp only [List.mem_cons, exists_eq_or_imp]
      have : goodMethod m = false := by unfold goodMethod; rw [hsafe]; simp
      rw [this]
      simp }

end Cors
