import CorsVerif.Proofs.Order
/-
  Sorted sets are canonical: two sets built by `Add` with the same members are equal
  (same element list, same `maxLen`); so `SortedSet.ofList` depends only on the members of the list,
  and a look-up in it is list membership.
-/
namespace Cors

def maxLenOf : List Bytes → Nat
  | [] => 0
  | x :: xs => max x.length (maxLenOf xs)

/-- Stronger than `WF`: `maxLen` is the longest length, not a bound on it. -/
structure SortedSet.Exact (set : SortedSet) : Prop where
  sorted : StrictSorted set.elems
  exact : set.maxLen = maxLenOf set.elems

theorem le_maxLenOf (l : List Bytes) (x : Bytes) (hx : x ∈ l) : x.length ≤ maxLenOf l := by
  induction l with
  | nil => cases hx
  | cons y ys ih =>
    simp only [maxLenOf]
    rcases List.mem_cons.mp hx with rfl | hx
    · exact Nat.le_max_left _ _
    · exact Nat.le_trans (ih hx) (Nat.le_max_right _ _)

theorem SortedSet.Exact.wf {set : SortedSet} (h : set.Exact) : set.WF := by
  refine ⟨h.sorted, ?_⟩
  rw [h.exact]
  exact le_maxLenOf set.elems

theorem maxLenOf_insertSorted (x : Bytes) (l : List Bytes) :
    maxLenOf (insertSorted Bytes.lt x l) = max (maxLenOf l) x.length := by
  induction l with
  | nil => exact Nat.max_comm _ _
  | cons y ys ih =>
    rw [insertSorted]
    split
    · exact Nat.max_comm _ _
    · rw [maxLenOf, ih, maxLenOf, Nat.max_assoc]

theorem SortedSet.empty_exact : SortedSet.Exact {} := ⟨List.Pairwise.nil, rfl⟩

theorem SortedSet.add_exact (set : SortedSet) (h : set.Exact) (e : Bytes) : (set.add e).Exact := by
  by_cases he : e ∈ set.elems
  · rwa [add_of_mem he]
  · rw [add_of_not_mem he]
    exact ⟨insertSorted_sorted h.sorted he, by simp only [maxLenOf_insertSorted, h.exact]⟩

theorem sorted_ext {l1 l2 : List Bytes} (h1 : StrictSorted l1) (h2 : StrictSorted l2)
    (hm : ∀ x, x ∈ l1 ↔ x ∈ l2) : l1 = l2 :=
  Node.sorted_perm_eq (h1.imp Bytes.lt_asymm) (h2.imp Bytes.lt_asymm)
    ((List.perm_ext_iff_of_nodup (h1.imp Bytes.lt_ne) (h2.imp Bytes.lt_ne)).mpr hm)

theorem SortedSet.ext_members {s1 s2 : SortedSet} (h1 : s1.Exact) (h2 : s2.Exact)
    (hm : ∀ x, x ∈ s1.elems ↔ x ∈ s2.elems) : s1 = s2 := by
  have he : s1.elems = s2.elems := sorted_ext h1.sorted h2.sorted hm
  have hl : s1.maxLen = s2.maxLen := by rw [h1.exact, h2.exact, he]
  cases s1; cases s2
  simp only [SortedSet.mk.injEq]
  exact ⟨he, hl⟩

theorem SortedSet.foldl_add_exact (l : List Bytes) {s : SortedSet} (h : s.Exact) : (l.foldl SortedSet.add s).Exact :=
  List.foldlRecOn l SortedSet.add h fun s hs e _ => SortedSet.add_exact s hs e

theorem SortedSet.mem_foldl_add (l : List Bytes) (s : SortedSet) (x : Bytes) :
    x ∈ (l.foldl SortedSet.add s).elems ↔ x ∈ s.elems ∨ x ∈ l := by
  induction l generalizing s with
  | nil => simp
  | cons e l ih => rw [List.foldl_cons, ih, SortedSet.mem_add, List.mem_cons, or_comm (a := x = e), or_assoc]

theorem SortedSet.ofList_exact (l : List Bytes) : (SortedSet.ofList l).Exact :=
  SortedSet.foldl_add_exact l SortedSet.empty_exact

theorem SortedSet.ofList_wf (es : List Bytes) : (SortedSet.ofList es).WF := (SortedSet.ofList_exact es).wf

theorem SortedSet.mem_ofList (l : List Bytes) (x : Bytes) : x ∈ (SortedSet.ofList l).elems ↔ x ∈ l := by
  simp [SortedSet.ofList, SortedSet.mem_foldl_add, SortedSet.empty]

theorem SortedSet.ofList_congr {l1 l2 : List Bytes} (h : ∀ x, x ∈ l1 ↔ x ∈ l2) : SortedSet.ofList l1 = SortedSet.ofList l2 :=
  SortedSet.ext_members (SortedSet.ofList_exact l1) (SortedSet.ofList_exact l2) fun x => by
    rw [SortedSet.mem_ofList, SortedSet.mem_ofList, h]

theorem SortedSet.ofList_elems {s : SortedSet} (h : s.Exact) : SortedSet.ofList s.elems = s :=
  SortedSet.ext_members (SortedSet.ofList_exact _) h (SortedSet.mem_ofList _)

theorem SortedSet.contains_iff (set : SortedSet) (h : set.WF) (x : Bytes) : set.contains x = set.elems.contains x := by
  unfold SortedSet.contains
  rw [SortedSet.indexAfter_eq set h, List.drop_zero, Option.isSome_map, SortedSet.findIdx_eq_idxOf?, Bool.eq_iff_iff,
    List.contains_iff_mem, List.isSome_idxOf?]

theorem SortedSet.ofList_contains (es : List Bytes) (x : Bytes) : (SortedSet.ofList es).contains x = es.contains x := by
  rw [SortedSet.contains_iff _ (SortedSet.ofList_wf es), Bool.eq_iff_iff, List.contains_iff_mem, List.contains_iff_mem,
    SortedSet.mem_ofList]

theorem SortedSet.forall_mem_of_kept (keep : Bytes → Bool) (norm : Bytes → Bytes) {P : Bytes → Prop}
    (h : ∀ n, keep n = true → P (norm n)) (l : List Bytes) :
    ∀ e ∈ (SortedSet.ofList ((l.filter keep).map norm)).elems, P e := by
  intro e he
  rw [SortedSet.mem_ofList, List.mem_map] at he
  obtain ⟨n, hn, rfl⟩ := he
  exact h n (List.mem_filter.mp hn).2

/-- A set of kept, normalised entries, listed and validated again, is the same set. -/
theorem SortedSet.ofList_filter_map_elems (keep : Bytes → Bool) (norm : Bytes → Bytes)
    (h : ∀ n, keep n = true → keep (norm n) = true ∧ norm (norm n) = norm n) (l : List Bytes) :
    SortedSet.ofList (((SortedSet.ofList ((l.filter keep).map norm)).elems.filter keep).map norm) =
      SortedSet.ofList ((l.filter keep).map norm) := by
  have hmem := SortedSet.forall_mem_of_kept keep norm (P := fun e => keep e = true ∧ norm e = e) h l
  rw [List.filter_eq_self.mpr (fun e he => (hmem e he).1),
    map_eq_self (fun e he => (hmem e he).2), SortedSet.ofList_elems (SortedSet.ofList_exact _)]

end Cors
