import CorsVerif.Model.Headers
/-
  Tokens (`Headers.isValid`, `httpguts.ValidHeaderFieldName`): a token is not empty, its bytes are ASCII and are neither a
  comma nor whitespace, and byte case mapping takes tokens to tokens.
-/
namespace Cors
namespace Headers

theorem tchar_not_comma {b : Nat} (h : isTchar b = true) : b ≠ comma := by
  intro hb; subst hb; revert h; decide

theorem tchar_not_ows {b : Nat} (h : isTchar b = true) : isOWS b = false := by
  cases ho : isOWS b with
  | false => rfl
  | true =>
    simp only [isOWS, Bool.or_eq_true, beq_iff_eq] at ho
    rcases ho with rfl | rfl <;> revert h <;> decide

theorem valid_ne_nil {t : Bytes} (h : isValid t = true) : t ≠ [] := by
  intro ht; subst ht; revert h; decide

theorem valid_tchar {t : Bytes} (h : isValid t = true) : ∀ b ∈ t, isTchar b = true := by
  simp only [isValid, Bool.and_eq_true, List.all_eq_true] at h
  exact h.2

theorem valid_no_comma {t : Bytes} (h : isValid t = true) : comma ∉ t :=
  fun hc => tchar_not_comma (valid_tchar h _ hc) rfl

theorem tchar_lt {b : Nat} (h : isTchar b = true) : b < 128 := by
  unfold isTchar at h
  simp only [Bool.or_eq_true, Bool.and_eq_true, decide_eq_true_eq, List.contains_eq_mem, List.mem_cons, List.mem_nil_iff, or_false] at h
  omega

theorem isTchar_letter {b : Nat} (h : (65 ≤ b ∧ b ≤ 90) ∨ (97 ≤ b ∧ b ≤ 122)) : isTchar b = true := by
  unfold isTchar
  simp only [Bool.or_eq_true, Bool.and_eq_true, decide_eq_true_eq]
  rcases h with h | h
  · exact Or.inl (Or.inl (Or.inr h))
  · exact Or.inl (Or.inr h)

theorem tchar_lower_eq (b : Nat) : isTchar (Bytes.lowerByte b) = isTchar b := by
  unfold Bytes.lowerByte
  split
  · rename_i h; rw [isTchar_letter (Or.inl h), isTchar_letter (Or.inr (by omega))]
  · rfl

theorem tchar_upper_eq (b : Nat) : isTchar (Bytes.upperByte b) = isTchar b := by
  unfold Bytes.upperByte
  split
  · rename_i h; rw [isTchar_letter (Or.inr h), isTchar_letter (Or.inl (by omega))]
  · rfl

theorem valid_map {f : Nat → Nat} (hf : ∀ b, isTchar (f b) = isTchar b) (n : Bytes) : isValid (n.map f) = isValid n := by
  unfold isValid
  rw [List.all_map, (funext hf : isTchar ∘ f = isTchar), List.isEmpty_map]

theorem valid_lower_eq (n : Bytes) : isValid n.lower = isValid n := valid_map tchar_lower_eq n

theorem valid_upper_eq (n : Bytes) : isValid n.upper = isValid n := valid_map tchar_upper_eq n

theorem valid_lower {n : Bytes} (h : isValid n = true) : isValid n.lower = true := (valid_lower_eq n).trans h

end Headers
end Cors
