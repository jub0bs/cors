import CorsVerif.Proofs.Tree
import CorsVerif.Proofs.PatternText
/-
  Parsed patterns and the tree.  A pattern that `ParsePattern` accepts is well-formed in the sense `Tree.Insert`
  relies on (`C01_parsed`), and `node.elems` renders its stored entry back to the string it was parsed
  from, except that an IPv4 address written in brackets comes back without them (`render_form`); C06 rests on this.
-/
namespace Cors
open Gen Pat

theorem ipVerdict_head {ext : Ext} (hext : ∀ h info, ext.ip6 h = some info → h.head? ≠ some 42) {v : Bytes} {lb : Bool}
    (hv : Pat.ipVerdict ext v = .ok lb) : v.head? ≠ some 42 := by
  rcases ipVerdict_eq_ok.mp hv with ⟨_, h4⟩ | ⟨_, info, hi, _⟩
  · -- a dotted quad starts with a digit
    obtain ⟨a, b, c, d, rfl, ha, _⟩ := parseIPv4_eq_some.mp h4
    obtain ⟨hne, hd⟩ := octetOK_digits ha
    obtain ⟨x, t, rfl⟩ := List.exists_cons_of_ne_nil hne
    rw [Bytes.join_head? 46 hne]
    simp only [List.all_cons, Bool.and_eq_true] at hd
    rintro ⟨rfl⟩
    exact absurd hd.1 (by decide)
  · exact hext _ _ hi

/-- **C01 (parsed patterns are well-formed).** Relative to the IPv6 oracle never accepting a
literal whose first byte is `*` (true of `netip.ParseAddr`). -/
theorem C01_parsed (ext : Ext) (hext : ∀ h info, ext.ip6 h = some info → h.head? ≠ some 42)
    (s : Bytes) (p : Pattern) (h : Pat.parsePattern ext s = .ok p) : p.WF := by
  obtain ⟨rest, _, rest2, _, rest3, hhp, _⟩ := (parsePattern_eq_ok.mp h).scheme
  have hp : p.port ≤ 65536 := (parsePattern_eq_ok.mp h).port_le
  obtain ⟨scheme, value, kind, port⟩ := p
  cases parseHostPattern_eq_ok.mp hhp with
  | ip _ _ hv => exact ⟨hp, fun hk => (by cases ‹Bool› <;> cases hk), fun _ => ipVerdict_head hext hv⟩
  | wild => exact ⟨hp, fun _ => ⟨_, rfl⟩, fun hk => absurd rfl hk⟩
  | domain _ hf _ =>
    -- the host loop only lets host bytes through, and `*` is none
    exact ⟨hp, fun hk => (by cases hk), fun _ h42 =>
      Bytes.not_mem_of_all (Lex.fastParseHost_span hf).bytes (by decide) (List.mem_of_head? h42)⟩

namespace RoundTrip

/-- What `node.elems` renders for the stored entry of `p`. -/
def renderOf (p : Pattern) : Bytes := Node.renderEntry p.scheme (treeKey p).1.reverse (Node.code p.port (treeKey p).2)

theorem renderEntry_eq (scheme host : Bytes) (port : Nat) (w : Bool) (hp : port ≤ 65536) :
    Node.renderEntry scheme host (Node.code port w) =
      scheme ++ Facts.origins_schemeHostSep ++ (if w then Facts.origins_subdomainWildcard else [])
        ++ (if host.contains Facts.origins_hostPortSep then [91] ++ host ++ [93] else host)
        ++ (if port = 0 then [] else if port = 65536 then [Facts.origins_hostPortSep] ++ Facts.origins_portWildcard
            else [Facts.origins_hostPortSep] ++ Bytes.itoa port) := by
  -- decoding (`decode_code`): the sign of the code is the wildcard flag, and the offset added back gives the port
  obtain ⟨hdec, hw⟩ := Node.decode_code (p := port) w ⟨by omega, by omega⟩
  have hneg : (Node.code port w < 0) = (w = true) :=
    propext ⟨fun h => hw ▸ decide_eq_true h, fun h => of_decide_eq_true (hw.trans h)⟩
  simp only [Node.decodePort, ← Node.portOffset_eq, hneg] at hdec
  unfold Node.renderEntry
  simp only [hneg, hdec, Node.wildcardPort_eq]
  by_cases h0 : port = 0
  · subst h0; simp
  · by_cases h1 : port = 65536
    · subst h1; simp
    · have e0 : ((port : Int) == 0) = false := by simp; omega
      have e1 : ((port : Int) == 65536) = false := by simp; omega
      simp [e0, e1, h0, h1]

theorem renderOf_eq {p : Pattern} (hwf : p.WF) (hc : p.kind = .subdomains → (58 : Nat) ∉ p.value) :
    renderOf p = p.scheme ++ Facts.origins_schemeHostSep ++
      (if (58 : Nat) ∈ p.value then 91 :: p.value ++ [93] else p.value) ++ portText p.port := by
  have hport : ∀ (host : Bytes) (w : Bool), Node.renderEntry p.scheme host (Node.code p.port w) =
      p.scheme ++ Facts.origins_schemeHostSep ++ (if w then Facts.origins_subdomainWildcard else [])
        ++ (if host.contains Facts.origins_hostPortSep then [91] ++ host ++ [93] else host) ++ portText p.port := by
    intro host w
    rw [renderEntry_eq _ _ _ _ hwf.port]
    rfl
  unfold renderOf
  by_cases hk : p.kind = .subdomains
  · obtain ⟨base, hv⟩ := hwf.wild hk
    have hnc := hc hk
    rw [treeKey_wild hv, hport, List.reverse_reverse, if_neg hnc]
    rw [hv] at hnc ⊢
    have : (46 :: base).contains Facts.origins_hostPortSep = false := by
      rw [List.contains_eq_mem]; simpa [Facts.origins_hostPortSep] using fun h => hnc (List.mem_cons_of_mem _ h)
    rw [this]
    simp [Facts.origins_subdomainWildcard]
  · rw [treeKey_plain (hwf.plain hk), hport, List.reverse_reverse]
    by_cases h58 : (58 : Nat) ∈ p.value <;> simp [h58, Facts.origins_hostPortSep]

/-- The second case is an IPv4 address written in brackets: it is rendered without them. -/
theorem render_form {ext : Ext} {s : Bytes} {p : Pattern} (h : ParsedAs ext s p) (hwf : p.WF) :
    renderOf p = s ∨
    (s = p.scheme ++ Facts.origins_schemeHostSep ++ 91 :: p.value ++ 93 :: portText p.port ∧ (58 : Nat) ∉ p.value ∧
      renderOf p = p.scheme ++ Facts.origins_schemeHostSep ++ p.value ++ portText p.port ∧
      ∃ lb, ipVerdict ext p.value = .ok lb ∧ p.kind = if lb then .loopbackIP else .nonLoopbackIP) := by
  rcases h.text with ⟨hs, hv⟩ | ⟨hs, lb, hv, hk⟩
  · left
    have hnc := valueBytes_no_colon hv
    rw [renderOf_eq hwf (fun _ => hnc), if_neg hnc, ← hs]
  · have hns : p.kind = .subdomains → (58 : Nat) ∉ p.value := by
      intro hk'; rw [hk'] at hk; cases lb <;> cases hk
    rw [renderOf_eq hwf hns]
    by_cases h58 : (58 : Nat) ∈ p.value
    · left; rw [if_pos h58, hs]; simp
    · right; rw [if_neg h58]; exact ⟨hs, h58, rfl, lb, hv, hk⟩

/-- `render_form` without its second case.  `hbr`: brackets stand only around a host with a colon (an IPv6 literal). -/
theorem render_eq_raw {ext : Ext} {s : Bytes} {p : Pattern} (h : ParsedAs ext s p) (hwf : p.WF)
    (hbr : (91 : Nat) ∈ s → (58 : Nat) ∈ p.value) : renderOf p = s := by
  rcases render_form h hwf with heq | ⟨hs, h58, _⟩
  · exact heq
  · exact absurd (hbr (by rw [hs]; simp)) h58

end RoundTrip
end Cors
