import CorsVerif.Proofs.Sets
import CorsVerif.Model.Config
/-
  The validators of config.go in closed form: first the two without a loop, with the regenerated constants put
  in (`Validate.status_eq`, `Validate.maxAge_eq`), then the four loops.  Each iteration of a loop appends the
  entry's own errors, raises the `*` flag, and adds the normalised entry to the set (inserts the
  parsed pattern into the tree) if the entry is one that is kept; only `validateRequestHeaders` lets
  the set update read the flags (see `reqHdrStep_eq`).  Hence the final state is a `flatMap`, a
  `contains` and `SortedSet.ofList` of a `filter`/`map` of the list, and what depends only on the
  members of the list (the set, the flags) does not depend on its order.
  The closed form of `validateOrigins` is `C06A.origins_eq`, the sibling of `Folds.methods_eq`; the words it is said
  in (`TreeRT.rawErrs`, `parsedPatterns`, `TreeRT.build`) are defined here for that reason, the rest of `TreeRT`
  in Proofs/Accepted.lean and Proofs/TreeRoundTrip.lean.
-/
namespace Cors
open Gen Validate

/-- The regenerated constants put in (`4` is `defaultPreflightStatus - 200`); in range the `uint8` conversion is exact. -/
theorem Validate.status_eq (s : Int) :
    Validate.status s =
      if s = 0 then .ok 4
      else if 200 ≤ s ∧ s ≤ 299 then .ok (s - 200).toNat
      else .error (.status s 204 200 299) := by
  unfold Validate.status
  rw [show Facts.cors_defaultPreflightStatus = 204 from rfl, show Facts.cors_validatePreflightStatus_lowerBound = 200 from rfl,
    show Facts.cors_validatePreflightStatus_upperBound = 299 from rfl]
  simp only [beq_iff_eq, Bool.not_eq_true', Bool.and_eq_false_iff, decide_eq_false_iff_not, Int.not_le]
  by_cases h0 : s = 0
  · rw [if_pos h0, if_pos h0]
  rw [if_neg h0, if_neg h0]
  by_cases hb : 200 ≤ s ∧ s ≤ 299
  · rw [if_neg (by omega), if_pos hb, Nat.mod_eq_of_lt (by omega)]
  · rw [if_pos (by omega), if_neg hb]

theorem Validate.maxAge_eq (d : Int) :
    Validate.maxAge d =
      if d < -1 ∨ 86400 < d then .error (.maxAge d 5 86400 (-1))
      else .ok (if d = -1 then [[48]] else if d = 0 then [] else [Bytes.itoa d.toNat]) := by
  unfold Validate.maxAge
  rw [show Facts.cors_validateMaxAge_disableCaching = -1 from rfl, show Facts.cors_validateMaxAge_upperBound = 86400 from rfl,
    show Facts.cors_validateMaxAge_defaultMaxAge = 5 from rfl]
  simp only [Bool.or_eq_true, decide_eq_true_eq, beq_iff_eq, apply_ite Except.ok]
  rfl

namespace Folds

/-- An entry of `Methods` that ends up in the allowed-method set. -/
def goodMethod (n : Bytes) : Bool :=
  n != Validate.star && Methods.isValid n && !Methods.isSafelisted (Methods.normalize n) && !Methods.isForbidden (Methods.normalize n)

def methodErr (n : Bytes) : List CfgErr :=
  if n == Validate.star then []
  else if !Methods.isValid n then [.method n .invalid]
  else if Methods.isSafelisted (Methods.normalize n) then []
  else if Methods.isForbidden (Methods.normalize n) then [.method (Methods.normalize n) .forbidden]
  else []

theorem methodStep_eq (st : MState) (n : Bytes) :
    methodStep st n =
      { set := if goodMethod n then st.set.add (Methods.normalize n) else st.set
        errs := st.errs ++ methodErr n
        any := st.any || n == Validate.star } := by
  unfold methodStep goodMethod methodErr
  by_cases h1 : n = Validate.star
  · simp [h1]
  have h1' : (n == Validate.star) = false := beq_false_of_ne h1
  by_cases h2 : Methods.isValid n
  · by_cases h3 : Methods.isSafelisted (Methods.normalize n)
    · simp [h1', h2, h3]
    · by_cases h4 : Methods.isForbidden (Methods.normalize n) <;> simp [h1, h1', h2, h3, h4]
  · simp [h1', h2]

theorem methods_fold (names : List Bytes) (st : MState) :
    names.foldl methodStep st =
      { set := ((names.filter goodMethod).map Methods.normalize).foldl SortedSet.add st.set
        errs := st.errs ++ names.flatMap methodErr
        any := st.any || names.contains Validate.star } := by
  induction names generalizing st with
  | nil => simp
  | cons n ns ih =>
    rw [List.foldl_cons, ih, methodStep_eq, List.contains_cons, BEq.comm]
    cases h : goodMethod n <;> simp [h, Bool.or_assoc]

theorem methods_errs (names : List Bytes) (st : MState) :
    (names.foldl methodStep st).errs = st.errs ++ names.flatMap methodErr := by
  rw [methods_fold]

theorem methods_eq (names : List Bytes) :
    Validate.methods names =
      (names.flatMap methodErr, names.contains Validate.star,
       if names.contains Validate.star then {} else SortedSet.ofList ((names.filter goodMethod).map Methods.normalize)) := by
  unfold Validate.methods
  rw [methods_fold]
  simp [SortedSet.ofList, SortedSet.empty]

/-- An entry of `ResponseHeaders` that ends up in the exposed-header set. -/
def goodRes (n : Bytes) : Bool :=
  n != Validate.star && Headers.isValid n && !Headers.isForbiddenResponseHeaderName n.lower
  && !Headers.isProhibitedResponseHeaderName n.lower && !Headers.isSafelistedResponseHeaderName n.lower

def resHdrErr (cred : Bool) (n : Bytes) : List CfgErr :=
  if n == Validate.star then (if cred then [.wildcardRespHdr] else [])
  else if !Headers.isValid n then [.headerName n true .invalid]
  else if Headers.isForbiddenResponseHeaderName n.lower then [.headerName n true .forbidden]
  else if Headers.isProhibitedResponseHeaderName n.lower then [.headerName n true .prohibited]
  else []

theorem resHdrStep_eq (cred : Bool) (st : EState) (n : Bytes) :
    resHdrStep cred st n =
      { set := if goodRes n then st.set.add n.lower else st.set
        errs := st.errs ++ resHdrErr cred n
        all := st.all || n == Validate.star } := by
  unfold resHdrStep goodRes resHdrErr
  by_cases h1 : n = Validate.star
  · simp [h1]
  have h1' : (n == Validate.star) = false := beq_false_of_ne h1
  by_cases h2 : Headers.isValid n
  · by_cases h3 : Headers.isForbiddenResponseHeaderName n.lower
    · simp [h1', h2, h3]
    · by_cases h4 : Headers.isProhibitedResponseHeaderName n.lower
      · simp [h1', h2, h3, h4]
      · by_cases h5 : Headers.isSafelistedResponseHeaderName n.lower <;> simp [h1, h1', h2, h3, h4, h5]
  · simp [h1', h2]

theorem resHdr_fold (cred : Bool) (names : List Bytes) (st : EState) :
    names.foldl (resHdrStep cred) st =
      { set := ((names.filter goodRes).map Bytes.lower).foldl SortedSet.add st.set
        errs := st.errs ++ names.flatMap (resHdrErr cred)
        all := st.all || names.contains Validate.star } := by
  induction names generalizing st with
  | nil => simp
  | cons n ns ih =>
    rw [List.foldl_cons, ih, resHdrStep_eq, List.contains_cons, BEq.comm]
    cases h : goodRes n <;> simp [h, Bool.or_assoc]

theorem resHdr_errs (cred : Bool) (names : List Bytes) (st : EState) :
    (names.foldl (resHdrStep cred) st).errs = st.errs ++ names.flatMap (resHdrErr cred) := by
  rw [resHdr_fold]

/-- The test `size > 0` of the code only spares a call: joining no names gives the empty string. -/
theorem responseHeaders_eq (cred : Bool) (names : List Bytes) :
    Validate.responseHeaders cred names =
      (names.flatMap (resHdrErr cred),
       if names.contains Validate.star then Validate.star
       else Bytes.join Headers.comma (SortedSet.ofList ((names.filter goodRes).map Bytes.lower)).elems) := by
  unfold Validate.responseHeaders
  rw [resHdr_fold]
  have hj : ∀ s : SortedSet, (if s.size > 0 then Bytes.join Headers.comma s.elems else []) = Bytes.join Headers.comma s.elems := by
    intro s
    unfold SortedSet.size
    cases s.elems <;> rfl
  simp [SortedSet.ofList, SortedSet.empty, hj]

/-! `allowAuth` is a cache: as long as no `*` was seen it says whether `authorization` is in the set, so
that a spelling of Authorization is an entry like any other.  After a `*` the set may depend on
the order of the entries, and `validateRequestHeaders` discards it. -/

def isAuth (n : Bytes) : Bool :=
  n != Validate.star && Headers.isValid n && n.lower == Facts.headers_Authorization

/-- An entry of `RequestHeaders`, other than Authorization, that ends up in the allowed set. -/
def goodReq (n : Bytes) : Bool :=
  n != Validate.star && Headers.isValid n && n.lower != Facts.headers_Authorization
  && !Headers.isForbiddenRequestHeaderName n.lower && !Headers.isProhibitedRequestHeaderName n.lower

def reqHdrErr (n : Bytes) : List CfgErr :=
  if n == Validate.star then []
  else if !Headers.isValid n then [.headerName n false .invalid]
  else if n.lower == Facts.headers_Authorization then []
  else if Headers.isForbiddenRequestHeaderName n.lower then [.headerName n false .forbidden]
  else if Headers.isProhibitedRequestHeaderName n.lower then [.headerName n false .prohibited]
  else []

theorem reqHdrStep_eq (cred : Bool) (st : RState) (n : Bytes) :
    reqHdrStep cred st n =
      { set := if goodReq n || (isAuth n && !st.allowAuth && (!st.asterisk || !cred)) then st.set.add n.lower else st.set
        errs := st.errs ++ reqHdrErr n
        asterisk := st.asterisk || n == Validate.star
        allowAuth := st.allowAuth || isAuth n } := by
  unfold reqHdrStep goodReq isAuth reqHdrErr
  by_cases h1 : n = Validate.star
  · simp [h1]
  have h1' : (n == Validate.star) = false := beq_false_of_ne h1
  by_cases h2 : Headers.isValid n
  · by_cases h3 : n.lower = Facts.headers_Authorization
    · obtain ⟨set, errs, ast, auth⟩ := st
      cases auth <;> by_cases h5 : (!ast || !cred) <;> simp [h1, h1', h2, h3, h5]
    · by_cases h4 : Headers.isForbiddenRequestHeaderName n.lower
      · simp [h1', h2, h3, h4]
      · by_cases h5 : Headers.isProhibitedRequestHeaderName n.lower <;> simp [h1, h1', h2, h3, h4, h5]
  · simp [h1', h2]

theorem reqHdr_fold (cred : Bool) (names : List Bytes) (st : RState) :
    (names.foldl (reqHdrStep cred) st).errs = st.errs ++ names.flatMap reqHdrErr ∧
    (names.foldl (reqHdrStep cred) st).asterisk = (st.asterisk || names.contains Validate.star) ∧
    (names.foldl (reqHdrStep cred) st).allowAuth = (st.allowAuth || names.any isAuth) := by
  induction names generalizing st with
  | nil => simp
  | cons n ns ih =>
    rw [List.foldl_cons, (ih _).1, (ih _).2.1, (ih _).2.2, reqHdrStep_eq, List.contains_cons, BEq.comm]
    simp [Bool.or_assoc]

theorem reqHdr_errs (cred : Bool) (names : List Bytes) (st : RState) :
    (names.foldl (reqHdrStep cred) st).errs = st.errs ++ names.flatMap reqHdrErr :=
  (reqHdr_fold cred names st).1

theorem isAuth_lower {n : Bytes} (h : isAuth n = true) : n.lower = Facts.headers_Authorization := by
  unfold isAuth at h
  simp only [Bool.and_eq_true, beq_iff_eq] at h
  exact h.2

/-- An entry of `RequestHeaders` that ends up in the allowed set when the list has no `*`. -/
def keepReq (n : Bytes) : Bool := goodReq n || isAuth n

/-- One iteration while no `*` has been seen.  A spelling of Authorization is added like any other kept entry: where
the code skips it because `allowAuth` is set, it is in the set already. -/
theorem reqHdrStep_noStar (cred : Bool) (st : RState) (n : Bytes) (h0 : st.asterisk = false)
    (hn : (n == Validate.star) = false) (hinv : st.allowAuth = true → Facts.headers_Authorization ∈ st.set.elems) :
    (reqHdrStep cred st n).set = (if keepReq n then st.set.add n.lower else st.set) ∧
    (reqHdrStep cred st n).asterisk = false ∧
    ((reqHdrStep cred st n).allowAuth = true → Facts.headers_Authorization ∈ (reqHdrStep cred st n).set.elems) := by
  have hset : (reqHdrStep cred st n).set = if keepReq n then st.set.add n.lower else st.set := by
    rw [reqHdrStep_eq, h0]
    unfold keepReq
    cases hg : goodReq n
    · cases ha : isAuth n
      · simp
      · cases hb : st.allowAuth
        · simp
        · simp [isAuth_lower ha, SortedSet.add_of_mem (hinv hb)]
    · simp
  refine ⟨hset, by rw [reqHdrStep_eq, h0, hn]; rfl, fun h => ?_⟩
  rw [hset]
  rw [reqHdrStep_eq] at h
  rcases Bool.or_eq_true_iff.mp h with h | h
  · split
    · exact (SortedSet.mem_add _ _ _).mpr (Or.inr (hinv h))
    · exact hinv h
  · rw [show keepReq n = true by unfold keepReq; rw [h, Bool.or_true], if_pos rfl]
    exact (SortedSet.mem_add _ _ _).mpr (Or.inl (isAuth_lower h).symm)

theorem reqHdr_fold_set (cred : Bool) (names : List Bytes) (st : RState) (h0 : st.asterisk = false)
    (hs : names.contains Validate.star = false)
    (hinv : st.allowAuth = true → Facts.headers_Authorization ∈ st.set.elems) :
    (names.foldl (reqHdrStep cred) st).set = ((names.filter keepReq).map Bytes.lower).foldl SortedSet.add st.set := by
  induction names generalizing st with
  | nil => rfl
  | cons n ns ih =>
    rw [List.contains_cons, Bool.or_eq_false_iff, BEq.comm] at hs
    obtain ⟨hset, hast, hinv'⟩ := reqHdrStep_noStar cred st n h0 hs.1 hinv
    rw [List.foldl_cons, ih _ hast hs.2 hinv', hset, List.filter_cons]
    cases keepReq n <;> rfl

theorem requestHeaders_eq (cred : Bool) (names : List Bytes) :
    Validate.requestHeaders cred names =
      (names.flatMap reqHdrErr, names.contains Validate.star, names.any isAuth,
       if names.contains Validate.star then ({}, [])
       else (SortedSet.ofList ((names.filter keepReq).map Bytes.lower),
         if (SortedSet.ofList ((names.filter keepReq).map Bytes.lower)).elems = [] then []
         else [Bytes.join Headers.comma (SortedSet.ofList ((names.filter keepReq).map Bytes.lower)).elems])) := by
  obtain ⟨he, ha, hb⟩ := reqHdr_fold cred names {}
  unfold Validate.requestHeaders
  simp only [he, ha, hb]
  cases hs : names.contains Validate.star
  · rw [reqHdr_fold_set cred names {} rfl hs (fun h => by cases h),
      show List.foldl SortedSet.add {} ((names.filter keepReq).map Bytes.lower) = SortedSet.ofList ((names.filter keepReq).map Bytes.lower) from rfl]
    simp only [Bool.false_or, Bool.not_false, Bool.true_and, List.nil_append, Bool.false_eq_true, if_false]
    -- an empty set is `{}`: storing it or not makes no difference
    by_cases he : (SortedSet.ofList ((names.filter keepReq).map Bytes.lower)).elems = []
    · rw [if_pos he, if_neg (by rw [SortedSet.size_eq_zero.mpr he]; decide),
        SortedSet.ext_members SortedSet.empty_exact (SortedSet.ofList_exact _) (fun x => by rw [he])]
    · rw [if_neg he, if_pos (by simpa using mt SortedSet.size_eq_zero.mp he)]
  · simp

end Folds

/-- What one listed origin contributes to the errors of `validateOrigins` (a function of the
entry and of the scalar switches only). -/
def TreeRT.rawErrs (ext : Ext) (cred pnaAny tolI tolP : Bool) (raw : Bytes) : List CfgErr :=
  if raw == Validate.star then
    (if cred then [CfgErr.incompatOrigin Validate.star .credentialed] else [])
      ++ (if pnaAny then [CfgErr.incompatOrigin Validate.star .pna] else [])
  else match Pat.parsePattern ext raw with
    | .error r => [.originPattern raw r]
    | .ok p =>
      (if Pat.isDeemedInsecure p && !tolI then
          (if cred then [CfgErr.incompatOrigin raw .credentialed] else [])
          ++ (if pnaAny then [CfgErr.incompatOrigin raw .pna] else [])
        else [])
      ++ (if p.kind == .subdomains && !tolP && Pat.hostIsEffectiveTLD ext p then [CfgErr.incompatOrigin raw .psl] else [])

/-- The patterns of a list of origin strings that `ParsePattern` accepts (`*` and rejected strings
are skipped), in order. -/
def parsedPatterns (ext : Ext) (raws : List Bytes) : List Pattern :=
  raws.filterMap fun raw =>
    if raw == Validate.star then none
    else match Pat.parsePattern ext raw with
      | .ok p => some p
      | .error _ => none

def TreeRT.build (ext : Ext) (raws : List Bytes) : Tree := (parsedPatterns ext raws).foldl Tree.insert Node.empty

open TreeRT

theorem TreeRT.mem_parsed {ext : Ext} {raws : List Bytes} {p : Pattern} :
    p ∈ parsedPatterns ext raws ↔ ∃ raw ∈ raws, raw ≠ Validate.star ∧ Pat.parsePattern ext raw = .ok p := by
  unfold parsedPatterns
  simp only [List.mem_filterMap]
  constructor
  · rintro ⟨raw, hr, h⟩
    split at h
    · cases h
    · rename_i hs
      cases hp : Pat.parsePattern ext raw with
      | error r => rw [hp] at h; cases h
      | ok q =>
        rw [hp] at h
        simp only [Option.some.injEq] at h
        subst h
        exact ⟨raw, hr, by simpa using hs, hp⟩
  · rintro ⟨raw, hr, hs, hp⟩
    refine ⟨raw, hr, ?_⟩
    have : (raw == Validate.star) = false := by simpa using hs
    simp [this, hp]

theorem TreeRT.parses_of_clean {ext : Ext} {cred pnaAny tolI tolP : Bool} {raw : Bytes} (hs : raw ≠ Validate.star)
    (h : rawErrs ext cred pnaAny tolI tolP raw = []) : ∃ p, Pat.parsePattern ext raw = .ok p := by
  unfold rawErrs at h
  rw [if_neg (by simpa using hs)] at h
  cases hp : Pat.parsePattern ext raw with
  | error r => rw [hp] at h; cases h
  | ok p => exact ⟨p, rfl⟩

theorem Folds.originStep_eq (ext : Ext) (cred pnaAny tolI tolP : Bool) (st : OState) (raw : Bytes) :
    originStep ext cred pnaAny tolI tolP st raw =
      { tree := (parsedPatterns ext [raw]).foldl Tree.insert st.tree
        errs := st.errs ++ rawErrs ext cred pnaAny tolI tolP raw
        allowAny := st.allowAny || raw == Validate.star } := by
  unfold originStep rawErrs parsedPatterns
  by_cases hs : raw = Validate.star
  · simp [hs]
  · have hs' : (raw == Validate.star) = false := beq_false_of_ne hs
    cases hp : Pat.parsePattern ext raw <;> simp [hs, hs', hp]

theorem Folds.origins_fold (ext : Ext) (cred pnaAny tolI tolP : Bool) (raws : List Bytes) (st : OState) :
    raws.foldl (originStep ext cred pnaAny tolI tolP) st =
      { tree := (parsedPatterns ext raws).foldl Tree.insert st.tree
        errs := st.errs ++ raws.flatMap (rawErrs ext cred pnaAny tolI tolP)
        allowAny := st.allowAny || raws.contains Validate.star } := by
  induction raws generalizing st with
  | nil => simp [parsedPatterns]
  | cons raw rest ih =>
    rw [List.foldl_cons, ih, Folds.originStep_eq, List.contains_cons, BEq.comm]
    have : parsedPatterns ext (raw :: rest) = parsedPatterns ext [raw] ++ parsedPatterns ext rest := by
      unfold parsedPatterns; rw [← List.filterMap_append]; rfl
    simp [this, Bool.or_assoc]

theorem TreeRT.fold_errs (ext : Ext) (cred pnaAny tolI tolP : Bool) (raws : List Bytes) (st : OState) :
    (raws.foldl (originStep ext cred pnaAny tolI tolP) st).errs =
      st.errs ++ raws.flatMap (rawErrs ext cred pnaAny tolI tolP) := by
  rw [Folds.origins_fold]

theorem C06A.origins_eq (ext : Ext) (cred pna tolI tolP : Bool) (raws : List Bytes) (hne : raws ≠ []) :
    Validate.origins ext cred pna tolI tolP raws =
      (raws.flatMap (rawErrs ext cred pna tolI tolP), if raws.contains Validate.star then Node.empty else TreeRT.build ext raws) := by
  unfold Validate.origins TreeRT.build
  rw [List.isEmpty_eq_false_iff.mpr hne, Folds.origins_fold]
  simp

/-- The tree needs no `raws ≠ []`: for no entry at all both sides are the empty tree. -/
theorem TreeRT.origins_tree (ext : Ext) (cred pna tolI tolP : Bool) (raws : List Bytes) :
    (Validate.origins ext cred pna tolI tolP raws).2 = if raws.contains Validate.star then Node.empty else TreeRT.build ext raws := by
  cases raws with
  | nil => rfl
  | cons raw rest => exact congrArg Prod.snd (C06A.origins_eq ext cred pna tolI tolP _ (List.cons_ne_nil raw rest))

theorem originErrs_eq (ext : Ext) (cfg : Config) :
    originErrs ext cfg =
      if cfg.origins.isEmpty then [.leaf (.originPattern [] .missing)]
      else fieldErr (cfg.origins.flatMap (rawErrs ext cfg.credentialed (pnaAny cfg) cfg.tolInsecure cfg.tolPSL)) := by
  unfold originErrs originsResult
  by_cases h : cfg.origins = []
  · rw [h]; rfl
  · rw [List.isEmpty_eq_false_iff.mpr h, C06A.origins_eq _ _ _ _ _ _ h]; rfl

end Cors
