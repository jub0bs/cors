import CorsVerif.Proofs.Case
import CorsVerif.Proofs.Render
import CorsVerif.Proofs.Tokens
import CorsVerif.Proofs.Bytes
/-
  The method / header / max-age parts of C06: validating what `newConfig` renders gives back
  the same internal values.  A rendered list is the element list of a set of kept, normalised
  entries; such entries are kept again and are their own normal forms, so the list validates to
  the set it came from (`SortedSet.ofList_filter_map_elems`).
-/
namespace Cors
open Gen Folds Headers
namespace CfgRT

theorem goodMethod_normalize {n : Bytes} (h : goodMethod n = true) :
    goodMethod (Methods.normalize n) = true ∧ Methods.normalize (Methods.normalize n) = Methods.normalize n :=
  ⟨(SameMethod.normalize n).goodMethod.trans h, normalize_idem n⟩

theorem goodRes_lower {n : Bytes} (h : goodRes n = true) : goodRes n.lower = true ∧ n.lower.lower = n.lower :=
  ⟨(SameName.lower n).goodRes.trans h, lower_idem n⟩

theorem keepReq_lower {n : Bytes} (h : keepReq n = true) : keepReq n.lower = true ∧ n.lower.lower = n.lower := by
  unfold keepReq at h ⊢
  rw [(SameName.lower n).goodReq, (SameName.lower n).isAuth]
  exact ⟨h, lower_idem n⟩

theorem goodMethod_clean {n : Bytes} (h : goodMethod n = true) : (n == Validate.star) = false ∧ methodErr n = [] := by
  unfold goodMethod at h
  unfold methodErr
  simp only [Bool.and_eq_true, bne_iff_ne, ne_eq, Bool.not_eq_true'] at h
  simp [h.1.1.1, h.1.1.2, h.1.2, h.2]

theorem goodRes_clean (cred : Bool) {n : Bytes} (h : goodRes n = true) : (n == Validate.star) = false ∧ resHdrErr cred n = [] := by
  unfold goodRes at h
  unfold resHdrErr
  simp only [Bool.and_eq_true, bne_iff_ne, ne_eq, Bool.not_eq_true'] at h
  simp [h.1.1.1.1, h.1.1.1.2, h.1.1.2, h.1.2]

theorem keepReq_clean {n : Bytes} (h : keepReq n = true) : (n == Validate.star) = false ∧ reqHdrErr n = [] := by
  unfold keepReq goodReq isAuth at h
  unfold reqHdrErr
  simp only [Bool.or_eq_true, Bool.and_eq_true, bne_iff_ne, ne_eq, Bool.not_eq_true', beq_iff_eq] at h
  rcases h with h | h
  · simp [h.1.1.1.1, h.1.1.1.2, h.1.1.2, h.1.2, h.2]
  · simp [h.1.1, h.1.2, h.2]

/-- A set of kept, normalised entries, listed: no entry is `*` and none raises an error.  Only the first half of
`hk` is used; it has the shape of the hypothesis of `SortedSet.ofList_filter_map_elems`, so that one argument serves both. -/
theorem elems_clean (keep : Bytes → Bool) (norm : Bytes → Bytes) (err : Bytes → List CfgErr)
    (hk : ∀ n, keep n = true → keep (norm n) = true ∧ norm (norm n) = norm n)
    (hc : ∀ n, keep n = true → (n == Validate.star) = false ∧ err n = []) (l : List Bytes) :
    (SortedSet.ofList ((l.filter keep).map norm)).elems.flatMap err = [] ∧
    (SortedSet.ofList ((l.filter keep).map norm)).elems.contains Validate.star = false := by
  have hmem := SortedSet.forall_mem_of_kept keep norm (P := fun e => (e == Validate.star) = false ∧ err e = [])
    (fun n hn => hc _ (hk n hn).1) l
  refine ⟨List.flatMap_eq_nil_iff.mpr fun e he => (hmem e he).2, ?_⟩
  rw [← Bool.not_eq_true, List.contains_iff_mem]
  intro he
  have := (hmem _ he).1
  simp at this

/-- What `newConfig` renders for the methods. -/
def renderMethods (any : Bool) (set : SortedSet) : List Bytes :=
  if any then [Validate.star] else if set.size > 0 then set.elems else []

theorem renderMethods_false (s : SortedSet) : renderMethods false s = s.elems :=
  s.elems_of_size

theorem methods_roundtrip (names : List Bytes) :
    Validate.methods (renderMethods (Validate.methods names).2.1 (Validate.methods names).2.2) =
      ([], (Validate.methods names).2.1, (Validate.methods names).2.2) := by
  rw [methods_eq names]
  cases names.contains Validate.star
  · obtain ⟨h1, h2⟩ := elems_clean goodMethod Methods.normalize methodErr (fun _ => goodMethod_normalize) (fun _ => goodMethod_clean) names
    simp only [renderMethods_false, Bool.false_eq_true, if_false]
    rw [methods_eq, h1, h2, SortedSet.ofList_filter_map_elems goodMethod Methods.normalize (fun _ => goodMethod_normalize)]
    rfl
  · simp only [if_true]; decide

/-- What `newConfig` renders for the response headers. -/
def renderResHdrs (aceh : Bytes) : List Bytes :=
  if aceh.length > 0 then Bytes.splitOn Headers.comma aceh else []

theorem join_length_pos {ns : List Bytes} (hne : ns ≠ []) (hv : ∀ n ∈ ns, isValid n = true) : (Bytes.join comma ns).length > 0 := by
  obtain ⟨a, t, rfl⟩ := List.exists_cons_of_ne_nil hne
  exact List.length_pos_iff.mpr (Bytes.join_ne_nil comma (valid_ne_nil (hv a List.mem_cons_self)) t)

theorem render_join {ns : List Bytes} (hv : ∀ n ∈ ns, isValid n = true) : renderResHdrs (Bytes.join comma ns) = ns := by
  unfold renderResHdrs
  by_cases hne : ns = []
  · rw [hne]; rfl
  · rw [if_pos (join_length_pos hne hv), Bytes.splitOn_join _ _ hne (fun n hn => valid_no_comma (hv n hn))]

theorem goodRes_valid {n : Bytes} (h : goodRes n = true) : isValid n.lower = true := by
  unfold goodRes at h
  simp only [Bool.and_eq_true] at h
  exact valid_lower h.1.1.1.2

theorem resHdrs_roundtrip (cred : Bool) (names : List Bytes) (herr : (Validate.responseHeaders cred names).1 = []) :
    Validate.responseHeaders cred (renderResHdrs (Validate.responseHeaders cred names).2) =
      ([], (Validate.responseHeaders cred names).2) := by
  rw [responseHeaders_eq cred names] at herr ⊢
  cases hs : names.contains Validate.star
  · obtain ⟨h1, h2⟩ := elems_clean goodRes Bytes.lower (resHdrErr cred) (fun _ => goodRes_lower) (fun _ => goodRes_clean cred) names
    simp only [Bool.false_eq_true, if_false]
    rw [render_join (SortedSet.forall_mem_of_kept goodRes Bytes.lower (fun _ => goodRes_valid) names), responseHeaders_eq, h1, h2,
      SortedSet.ofList_filter_map_elems goodRes Bytes.lower (fun _ => goodRes_lower)]
    rfl
  · -- `*` is listed without error, so credentialed access is off
    have := List.flatMap_eq_nil_iff.mp herr _ (List.contains_iff_mem.mp hs)
    cases cred
    · simp only [if_true]; decide
    · simp [resHdrErr] at this

/-- What `newConfig` renders for the request headers. -/
def renderReqHdrs (cred ast auth : Bool) (set : SortedSet) : List Bytes :=
  if !cred && ast && auth then [Validate.star, Facts.headers_Authorization]
  else if ast then [Validate.star]
  else if set.size > 0 then set.elems else []

theorem renderReqHdrs_false (cred auth : Bool) (s : SortedSet) : renderReqHdrs cred false auth s = s.elems := by
  unfold renderReqHdrs
  simp [s.elems_of_size]

theorem any_isAuth_elems (names : List Bytes) :
    (SortedSet.ofList ((names.filter keepReq).map Bytes.lower)).elems.any isAuth = names.any isAuth := by
  rw [Bool.eq_iff_iff, List.any_eq_true, List.any_eq_true]
  constructor
  · rintro ⟨e, he, ha⟩
    rw [SortedSet.mem_ofList, List.mem_map] at he
    obtain ⟨n, hn, rfl⟩ := he
    exact ⟨n, (List.mem_filter.mp hn).1, (SameName.lower n).isAuth.symm.trans ha⟩
  · rintro ⟨n, hn, ha⟩
    refine ⟨n.lower, ?_, (SameName.lower n).isAuth.trans ha⟩
    rw [SortedSet.mem_ofList]
    exact List.mem_map_of_mem (List.mem_filter.mpr ⟨hn, by unfold keepReq; rw [ha, Bool.or_true]⟩)

/-- The Authorization flag comes back except under credentialed `*`, where it is not rendered (and the handler never reads it). -/
theorem reqHdrs_roundtrip (cred : Bool) (names : List Bytes) :
    Validate.requestHeaders cred (renderReqHdrs cred (Validate.requestHeaders cred names).2.1
        (Validate.requestHeaders cred names).2.2.1 (Validate.requestHeaders cred names).2.2.2.1) =
      ([], (Validate.requestHeaders cred names).2.1,
       ((Validate.requestHeaders cred names).2.2.1 && !((Validate.requestHeaders cred names).2.1 && cred)),
       (Validate.requestHeaders cred names).2.2.2) := by
  rw [requestHeaders_eq cred names]
  cases hs : names.contains Validate.star
  · obtain ⟨h1, h2⟩ := elems_clean keepReq Bytes.lower reqHdrErr (fun _ => keepReq_lower) (fun _ => keepReq_clean) names
    simp only [Bool.false_eq_true, if_false, Bool.false_and, Bool.not_false, Bool.and_true, renderReqHdrs_false]
    rw [requestHeaders_eq, h1, h2, any_isAuth_elems, SortedSet.ofList_filter_map_elems keepReq Bytes.lower (fun _ => keepReq_lower)]
    rfl
  · simp only [if_true]
    cases names.any isAuth <;> cases cred <;> decide

/-- What `newConfig` renders for the max-age. -/
def renderMaxAge (acma : List Bytes) : Int :=
  match acma with
  | [] => 0
  | v :: _ => match Bytes.atoi v with
    | some n => if n != 0 then n else -1
    | none => -1

theorem maxAge_roundtrip (delta : Int) (acma : List Bytes) (h : Validate.maxAge delta = .ok acma) :
    Validate.maxAge (renderMaxAge acma) = .ok acma := by
  rw [Validate.maxAge_eq] at h
  by_cases h1 : delta < -1 ∨ 86400 < delta
  · rw [if_pos h1] at h; cases h
  rw [if_neg h1] at h
  cases h
  by_cases h2 : delta = -1
  · rw [if_pos h2]; rfl
  rw [if_neg h2]
  by_cases h3 : delta = 0
  · rw [if_pos h3]; rfl
  rw [if_neg h3]
  -- a positive number is rendered in decimal and read back
  have hr : renderMaxAge [Bytes.itoa delta.toNat] = delta := by
    unfold renderMaxAge
    simp only [Bytes.atoi_itoa]
    rw [if_pos (by simp only [bne_iff_ne, ne_eq]; omega)]
    omega
  rw [hr, Validate.maxAge_eq, if_neg h1, if_neg h2, if_neg h3]

end CfgRT
end Cors
