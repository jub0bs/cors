import CorsVerif.Spec.Basic
import CorsVerif.Proofs.Folds
import CorsVerif.Proofs.Node
import CorsVerif.Proofs.Case
/-
  Inversion of `newInternalConfig`: what acceptance implies, field by field, in particular for
  `Origins` (the tree is built from the listed patterns and is empty exactly when `*` is listed)
  and for the request-header part of the internal configuration (`ICfg.ReqHdrsSound`).
-/
namespace Cors
open Headers Validate Folds TreeRT

theorem accepted_iff (ext : Ext) (cfg : Config) (icfg : ICfg) :
    newInternalConfig ext cfg = .ok icfg ↔ Validate.allErrs ext cfg = [] ∧ icfg = Validate.build ext cfg := by
  unfold newInternalConfig
  constructor
  · intro h
    split at h
    · rename_i he
      cases h
      exact ⟨by simpa using he, rfl⟩
    · cases h
  · rintro ⟨he, rfl⟩
    simp [he]

theorem rejected_iff (ext : Ext) (cfg : Config) (e : Err) :
    newInternalConfig ext cfg = .error e ↔ Validate.allErrs ext cfg ≠ [] ∧ e = .join (Validate.allErrs ext cfg) := by
  unfold newInternalConfig
  split
  · simp [List.isEmpty_iff.mp ‹_›]
  · rename_i hn
    simp only [Except.error.injEq]
    exact ⟨fun h => ⟨by simpa using hn, h.symm⟩, fun h => h.2.symm⟩

theorem fieldErr_nil_iff (es : List CfgErr) : Validate.fieldErr es = [] ↔ es = [] := by
  unfold Validate.fieldErr
  cases es <;> simp

theorem tree_insert_nonempty (t : Tree) (p : Pattern) : (Tree.insert t p).isEmpty = false := by
  unfold Tree.insert
  split <;> exact Node.insert_nonempty _ _ _ _ _

theorem fold_insert_nonempty (ps : List Pattern) (t : Tree) (h : ps ≠ []) :
    Node.isEmpty (ps.foldl Tree.insert t) = false := by
  -- the last insertion leaves a non-empty tree
  obtain ⟨qs, p, rfl⟩ := (List.eq_nil_or_concat ps).resolve_left h
  rw [List.concat_eq_append, List.foldl_append]
  exact tree_insert_nonempty _ p

namespace TreeRT

theorem build_nonempty (ext : Ext) (raws : List Bytes) (h : parsedPatterns ext raws ≠ []) :
    Node.isEmpty (build ext raws) = false :=
  fold_insert_nonempty _ _ h

structure Acceptable (ext : Ext) (cred pna tolI tolP : Bool) (raws : List Bytes) : Prop where
  ne : raws ≠ []
  clean : ∀ raw ∈ raws, rawErrs ext cred pna tolI tolP raw = []

theorem Acceptable.parsed_ne {ext : Ext} {cred pna tolI tolP : Bool} {raws : List Bytes}
    (h : Acceptable ext cred pna tolI tolP raws) (hs : raws.contains Validate.star = false) :
    parsedPatterns ext raws ≠ [] := by
  obtain ⟨raw, hraw⟩ := List.exists_mem_of_ne_nil _ h.ne
  have hstar : raw ≠ Validate.star := fun h0 => by
    rw [h0, ← List.contains_iff_mem, hs] at hraw; cases hraw
  obtain ⟨p, hp⟩ := parses_of_clean hstar (h.clean raw hraw)
  exact List.ne_nil_of_mem (mem_parsed.mpr ⟨raw, hraw, hstar, hp⟩)

end TreeRT

theorem originErrs_nil_iff (ext : Ext) (cfg : Config) :
    originErrs ext cfg = [] ↔ cfg.origins ≠ [] ∧
      ∀ raw ∈ cfg.origins, rawErrs ext cfg.credentialed (pnaAny cfg) cfg.tolInsecure cfg.tolPSL raw = [] := by
  rw [originErrs_eq]
  split <;> simp_all [fieldErr_nil_iff]

/-- The errors of a configuration vanish iff its scalars are fine and every entry of every list is
clean on its own — a statement about *members*, not about lists. -/
theorem allErrs_nil_iff (ext : Ext) (c : Config) :
    Validate.allErrs ext c = [] ↔
      (Validate.statusErrs c = [] ∧ Validate.pnaErrs c = [] ∧ Validate.maxAgeErrs c = [] ∧ c.origins ≠ [] ∧
       (∀ raw ∈ c.origins, rawErrs ext c.credentialed (Validate.pnaAny c) c.tolInsecure c.tolPSL raw = []) ∧
       (∀ n ∈ c.methods, methodErr n = []) ∧ (∀ n ∈ c.requestHeaders, reqHdrErr n = []) ∧
       (∀ n ∈ c.responseHeaders, resHdrErr c.credentialed n = [])) := by
  unfold Validate.allErrs Validate.methodErrs Validate.reqHdrErrs Validate.resHdrErrs
  rw [methods_eq, requestHeaders_eq, responseHeaders_eq]
  simp only [List.append_eq_nil_iff, fieldErr_nil_iff, originErrs_nil_iff, List.flatMap_eq_nil_iff]
  constructor
  · rintro ⟨⟨⟨⟨⟨⟨h0, h1⟩, h2, h2'⟩, h3⟩, h4⟩, h5⟩, h6⟩
    exact ⟨h0, h1, h5, h2, h2', h3, h4, h6⟩
  · rintro ⟨h0, h1, h5, h2, h2', h3, h4, h6⟩
    exact ⟨⟨⟨⟨⟨⟨h0, h1⟩, h2, h2'⟩, h3⟩, h4⟩, h5⟩, h6⟩

theorem accepted_acceptable {ext : Ext} {cfg : Config} (h : allErrs ext cfg = []) :
    Acceptable ext cfg.credentialed (pnaAny cfg) cfg.tolInsecure cfg.tolPSL cfg.origins :=
  let ⟨_, _, _, hne, hclean, _⟩ := (allErrs_nil_iff ext cfg).mp h
  ⟨hne, hclean⟩

theorem accepted_tree {ext : Ext} {cfg : Config} :
    (Validate.build ext cfg).tree = if cfg.origins.contains star then Node.empty else TreeRT.build ext cfg.origins :=
  TreeRT.origins_tree ext cfg.credentialed (pnaAny cfg) cfg.tolInsecure cfg.tolPSL cfg.origins

theorem exists_accepted_iff (ext : Ext) (c : Config) : (∃ i, newInternalConfig ext c = .ok i) ↔ Validate.allErrs ext c = [] :=
  ⟨fun ⟨i, hi⟩ => ((accepted_iff ext c i).mp hi).1, fun h => ⟨_, (accepted_iff ext c _).mpr ⟨h, rfl⟩⟩⟩

theorem accepted_tree_isEmpty (ext : Ext) (cfg : Config) (icfg : ICfg) (acc : newInternalConfig ext cfg = .ok icfg) :
    icfg.tree.isEmpty = cfg.origins.contains Validate.star := by
  obtain ⟨herrs, rfl⟩ := (accepted_iff ext cfg icfg).mp acc
  rw [accepted_tree]
  cases hs : cfg.origins.contains Validate.star
  · -- some entry is listed, it is a pattern, so something was inserted
    exact TreeRT.build_nonempty ext _ ((accepted_acceptable herrs).parsed_ne hs)
  · rfl

theorem status_value_lt (s : Int) : (match Validate.status s with | .ok v => v | .error _ => 0) < 100 := by
  rw [Validate.status_eq]
  by_cases h0 : s = 0
  · rw [if_pos h0]; exact Nat.lt_of_sub_eq_succ rfl
  rw [if_neg h0]
  by_cases hb : 200 ≤ s ∧ s ≤ 299
  · rw [if_pos hb]; show (s - 200).toNat < 100; omega
  · rw [if_neg hb]; exact Nat.zero_lt_succ _

theorem accepted_wf (ext : Ext) (cfg : Config) (icfg : ICfg) (h : newInternalConfig ext cfg = .ok icfg) : icfg.WF := by
  have hempty := accepted_tree_isEmpty ext cfg icfg h
  obtain ⟨herrs, rfl⟩ := (accepted_iff ext cfg icfg).mp h
  refine ⟨fun he => ?_, status_value_lt cfg.status⟩
  -- `*` is listed without error, so credentialed access is off
  have := (accepted_acceptable herrs).clean _ (List.contains_iff_mem.mp (hempty.symm.trans he))
  show cfg.credentialed = false
  cases hc : cfg.credentialed
  · rfl
  · simp [TreeRT.rawErrs, hc] at this

/-- What the handler and the browser rely on in the request-header part of an accepted
configuration. -/
structure ICfg.ReqHdrsSound (icfg : ICfg) : Prop where
  exact : icfg.allowedReqHdrs.Exact
  tokens : ∀ n ∈ icfg.allowedReqHdrs.elems, isValid n = true ∧ n.lower = n ∧ n ≠ Validate.star
  asterisk_empty : icfg.asteriskReqHdrs = true → icfg.allowedReqHdrs.elems = []
  acah : icfg.asteriskReqHdrs = false →
    icfg.acah = if icfg.allowedReqHdrs.elems = [] then [] else [Bytes.join comma icfg.allowedReqHdrs.elems]

theorem ICfg.ReqHdrsSound.acah_isEmpty {icfg : ICfg} (hrs : icfg.ReqHdrsSound) (ha : icfg.asteriskReqHdrs = false) :
    icfg.acah.isEmpty = (icfg.allowedReqHdrs.size == 0) := by
  rw [hrs.acah ha, SortedSet.size]
  cases icfg.allowedReqHdrs.elems <;> rfl

theorem keepReq_token {n : Bytes} (h : keepReq n = true) : isValid n.lower = true ∧ n.lower.lower = n.lower ∧ n.lower ≠ Validate.star := by
  have : (n != Validate.star && isValid n) = true := by
    unfold keepReq goodReq isAuth at h
    simp only [Bool.or_eq_true, Bool.and_eq_true] at h ⊢
    rcases h with h | h
    · exact h.1.1.1
    · exact h.1
  simp only [Bool.and_eq_true, bne_iff_ne, ne_eq] at this
  exact ⟨valid_lower this.2, lower_idem n, fun hs => this.1 (lower_eq_star hs)⟩

theorem accepted_reqHdrs (ext : Ext) (cfg : Config) (icfg : ICfg) (h : newInternalConfig ext cfg = .ok icfg) :
    icfg.ReqHdrsSound := by
  -- acceptance serves only to name `icfg`: the four facts are read off the closed form of `validateRequestHeaders`
  -- (`requestHeaders_eq`), whatever errors it reports
  obtain ⟨_, rfl⟩ := (accepted_iff ext cfg icfg).mp h
  have h1 : (build ext cfg).asteriskReqHdrs = cfg.requestHeaders.contains Validate.star := by
    show (Validate.requestHeaders _ _).2.1 = _; rw [requestHeaders_eq]
  have h2 : ((build ext cfg).allowedReqHdrs, (build ext cfg).acah) = (Validate.requestHeaders cfg.credentialed cfg.requestHeaders).2.2.2 := rfl
  rw [requestHeaders_eq] at h2
  cases hs : cfg.requestHeaders.contains Validate.star
  · -- no `*`: the set is `ofList` of the kept names, lowercased, and `acah` is rendered from it
    rw [hs] at h2
    obtain ⟨hset, ha⟩ := Prod.mk.inj h2
    refine ⟨hset ▸ SortedSet.ofList_exact _, fun n hn => ?_, fun hast => ?_, fun _ => by rw [ha, hset]⟩
    · rw [hset] at hn
      exact SortedSet.forall_mem_of_kept keepReq Bytes.lower
        (P := fun e => isValid e = true ∧ e.lower = e ∧ e ≠ Validate.star) (fun _ => keepReq_token) _ n hn
    · rw [h1, hs] at hast; cases hast
  · -- `*`: the set and `acah` are empty
    rw [hs] at h2
    obtain ⟨hset, ha⟩ := Prod.mk.inj h2
    refine ⟨hset ▸ SortedSet.empty_exact, fun n hn => ?_, fun _ => by rw [hset], fun _ => by rw [ha, hset]; rfl⟩
    rw [hset] at hn; cases hn

end Cors
