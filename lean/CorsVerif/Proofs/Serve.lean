import CorsVerif.Spec.Basic
import CorsVerif.Proofs.NamesNe
/-
  Header maps: lookups after each kind of write.  The handlers decide, for each response header, a value or nothing, and
  then write at most once per header: `putOpt` / `addOpt` are those optional writes.  Then which handler `serveDec` runs,
  what of the internal configuration it reads, and `OriginDecision`: the three things a handler may decide about
  Allow-Origin and Allow-Credentials.
-/
namespace Cors
open Gen Serve

theorem assign_other (h : HdrMap) (k n : Bytes) (v : List Bytes) (hn : n ≠ k) : (h.assign k v) n = h n := by
  simp [HdrMap.assign, hn]

theorem assign_same (h : HdrMap) (k : Bytes) (v : List Bytes) : (h.assign k v) k = some v := by
  simp [HdrMap.assign]

theorem set_other (h : HdrMap) (k n v : Bytes) (hn : n ≠ k) : (h.set k v) n = h n := assign_other h k n [v] hn

theorem set_same (h : HdrMap) (k v : Bytes) : (h.set k v) k = some [v] := assign_same h k [v]

theorem add_other (h : HdrMap) (k n v : Bytes) (hn : n ≠ k) : (h.add k v) n = h n := assign_other h k n _ hn

theorem add_same (h : HdrMap) (k v : Bytes) : (h.add k v) k = some ((h k).getD [] ++ [v]) := by
  simp [HdrMap.add, HdrMap.assign]

namespace HdrMap

def putOpt (h : HdrMap) (k : Bytes) : Option (List Bytes) → HdrMap
  | none => h
  | some v => h.assign k v

def addOpt (h : HdrMap) (k : Bytes) : Option Bytes → HdrMap
  | none => h
  | some v => h.add k v

end HdrMap

theorem putOpt_other (h : HdrMap) {k n : Bytes} (v : Option (List Bytes)) (hn : n ≠ k) : (h.putOpt k v) n = h n := by
  cases v with
  | none => rfl
  | some v => exact assign_other h k n v hn

theorem putOpt_same (h : HdrMap) (k : Bytes) (v : Option (List Bytes)) : (h.putOpt k v) k = v.or (h k) := by
  cases v with
  | none => exact Option.none_or.symm
  | some v => exact assign_same h k v

theorem addOpt_other (h : HdrMap) {k n : Bytes} (v : Option Bytes) (hn : n ≠ k) : (h.addOpt k v) n = h n := by
  cases v with
  | none => rfl
  | some v => exact add_other h k n v hn

theorem addOpt_same (h : HdrMap) (k : Bytes) (v : Option Bytes) :
    (h.addOpt k v) k = if v.isSome then some ((h k).getD [] ++ v.toList) else h k := by
  cases v with
  | none => rfl
  | some v => exact add_same h k v

theorem keptAsPrefix_addOpt (h : HdrMap) (k : Bytes) (v : Option Bytes) : keptAsPrefix (h k) ((h.addOpt k v) k) := by
  cases v with
  | none => exact List.prefix_refl _
  | some v =>
    show keptAsPrefix (h k) ((h.add k v) k)
    rw [add_same]
    exact List.prefix_append _ _

theorem vary_ne_acam : Facts.headers_Vary ≠ Facts.headers_ACAM := NamesNe.vary_acam
theorem vary_ne_acah : Facts.headers_Vary ≠ Facts.headers_ACAH := NamesNe.vary_acah
theorem vary_ne_acapn : Facts.headers_Vary ≠ Facts.headers_ACAPN := NamesNe.vary_acapn

theorem copy_apply (h buf : HdrMap) (n : Bytes) : (h.copy buf) n = (buf n).or (h n) := by
  unfold HdrMap.copy
  cases buf n <;> rfl

theorem preflightVary_other (h : HdrMap) (n : Bytes) (hn : n ≠ Facts.headers_Vary) : preflightVary h n = h n := by
  unfold preflightVary
  cases h Facts.headers_Vary <;> exact assign_other _ _ _ _ hn

theorem preflightVarySgl_eq : Facts.headers_PreflightVarySgl = [Facts.headers_ValueVaryOptions] := by decide

theorem preflightVary_vary (h : HdrMap) :
    preflightVary h Facts.headers_Vary = some ((h Facts.headers_Vary).getD [] ++ [Facts.headers_ValueVaryOptions]) := by
  unfold preflightVary
  cases h Facts.headers_Vary with
  | none => exact (assign_same _ _ _).trans (congrArg some preflightVarySgl_eq)
  | some v => exact assign_same _ _ _

theorem forbidden_eq : forbidden = 403 := by decide

theorem okStatus_range {icfg : ICfg} (h : icfg.WF) : 200 ≤ okStatus icfg ∧ okStatus icfg ≤ 299 := by
  have := h.status_lt
  unfold okStatus
  exact ⟨by omega, by omega⟩

theorem okStatus_ne_forbidden (icfg : ICfg) (h : icfg.WF) : okStatus icfg ≠ forbidden := by
  have := okStatus_range h
  rw [forbidden_eq]
  omega

theorem handleCORSPreflight_next (dec : Dec) (icfg : ICfg) (h reqHdrs : HdrMap) (o m : Bytes) (dbg : Bool) :
    (handleCORSPreflight dec icfg h reqHdrs o m dbg).next = false := by
  unfold handleCORSPreflight
  cases preflightSteps dec icfg reqHdrs o m dbg <;> cases dbg <;> rfl

theorem handleCORSPreflight_status (dec : Dec) (icfg : ICfg) (h reqHdrs : HdrMap) (o m : Bytes) (dbg : Bool) :
    (handleCORSPreflight dec icfg h reqHdrs o m dbg).status.isSome = true := by
  unfold handleCORSPreflight
  cases preflightSteps dec icfg reqHdrs o m dbg <;> cases dbg <;> rfl

theorem serveDec_preflight_of {r : Req} {o a : Bytes} (hm : r.method = OPTIONS)
    (ho : r.hdrs.first Facts.headers_Origin = some o) (ha : r.hdrs.first Facts.headers_ACRM = some a)
    (dec : Dec) (icfg : ICfg) (dbg : Bool) (pre : HdrMap) :
    serveDec dec icfg dbg r pre = handleCORSPreflight dec icfg pre r.hdrs o a dbg := by
  unfold serveDec
  rw [ho, ha, hm]
  rfl

theorem serveDec_preflight {r : Req} (h : r.isPreflight = true) :
    ∃ o a, r.hdrs.first Facts.headers_Origin = some o ∧ r.hdrs.first Facts.headers_ACRM = some a ∧
      ∀ dec icfg dbg pre, serveDec dec icfg dbg r pre = handleCORSPreflight dec icfg pre r.hdrs o a dbg := by
  unfold Req.isPreflight at h
  simp only [Bool.and_eq_true, Option.isSome_iff_exists, beq_iff_eq] at h
  obtain ⟨⟨hm, o, ho⟩, a, ha⟩ := h
  exact ⟨o, a, ho, ha, serveDec_preflight_of hm ho ha⟩

def nonPreflightHdrs (dec : Dec) (icfg : ICfg) (r : Req) (pre : HdrMap) : HdrMap :=
  match r.hdrs.first Facts.headers_Origin with
  | none => handleNonCORS icfg pre (r.method == OPTIONS)
  | some o => handleCORSActual dec icfg pre o (r.method == OPTIONS)

theorem serveDec_nonpreflight {r : Req} (h : r.isPreflight = false) (dec : Dec) (icfg : ICfg) (dbg : Bool) (pre : HdrMap) :
    serveDec dec icfg dbg r pre = { hdrs := nonPreflightHdrs dec icfg r pre, status := none, next := true } := by
  unfold Req.isPreflight at h
  unfold serveDec nonPreflightHdrs
  cases ho : r.hdrs.first Facts.headers_Origin with
  | none => rfl
  | some o =>
    cases ha : r.hdrs.first Facts.headers_ACRM with
    | none => rfl
    | some a =>
      have hm : (r.method == OPTIONS) = false := by simpa [ho, ha] using h
      simp only [hm, Bool.false_eq_true, if_false]

/-- What a handler may decide for Access-Control-Allow-Origin and -Allow-Credentials: nothing; `*` and no credentials
header, for an anonymous allow-all configuration; or the echo of the allowed first `Origin` value, with `true` iff
credentialed.  All three handlers decide one of these (`nonCORS_decision`, `actual_decision`, `expACAO_decision`); the
first two clauses of `C03Spec` say no more, and the browser's CORS check reads nothing else
(`Browser.corsCheck_of_decision`). -/
inductive OriginDecision (dec : Dec) (icfg : ICfg) (r : Req) : Option (List Bytes) → Option (List Bytes) → Prop
  | nothing : OriginDecision dec icfg r none none
  | star : icfg.tree.isEmpty = true → icfg.credentialed = false →
      OriginDecision dec icfg r (some [Facts.headers_ValueWildcard]) none
  | echo (o : Bytes) : r.hdrs.first Facts.headers_Origin = some o → dec.allowed o = true →
      OriginDecision dec icfg r (some [o]) (if icfg.credentialed then some [Facts.headers_ValueTrue] else none)

theorem OriginDecision.guard {dec : Dec} {icfg : ICfg} {r : Req} {a c : Option (List Bytes)}
    (h : OriginDecision dec icfg r a c) (g : Bool) :
    OriginDecision dec icfg r (if g then a else none) (if g then c else none) := by
  cases g
  · exact .nothing
  · exact h

theorem serveDec_next (dec : Dec) (icfg : ICfg) (dbg : Bool) (r : Req) (pre : HdrMap) :
    (serveDec dec icfg dbg r pre).next = !r.isPreflight := by
  cases h : r.isPreflight with
  | false => rw [serveDec_nonpreflight h]; rfl
  | true =>
    obtain ⟨o, a, _, _, e⟩ := serveDec_preflight h
    rw [e]
    exact handleCORSPreflight_next dec icfg pre r.hdrs o a dbg

/-- What the handler does not read of the internal configuration: of the tree anything but `isEmpty` (the rest goes
through the decision oracle), and under a credentialed `*` the flag `allowAuthorization`, which only a non-credentialed
`*` reads.  Under a credentialed `*` `Config()` does not list Authorization, so there the round trip may change the flag
(`SameBut.allowAuthorization`). -/
theorem serveDec_congr_icfg (dec : Dec) (i : ICfg) (t : Tree) (a : Bool) (ht : t.isEmpty = i.tree.isEmpty)
    (ha : (i.asteriskReqHdrs && i.credentialed) = true ∨ a = i.allowAuthorization) :
    serveDec dec { i with tree := t, allowAuthorization := a } = serveDec dec i := by
  funext dbg r pre
  unfold serveDec handleNonCORS handleCORSPreflight handleCORSActual preflightSteps
    processOriginForPreflight processACRPN processACRM processACRH okStatus
  rcases ha with h | rfl
  · simp only [Bool.and_eq_true] at h
    simp only [ht, h.1, h.2, Bool.not_true, Bool.and_false, Bool.false_eq_true, if_false]
  · simp only [ht]

theorem serveDec_congr_tree (dec : Dec) (i : ICfg) (t : Tree) (h : t.isEmpty = i.tree.isEmpty) :
    serveDec dec { i with tree := t } = serveDec dec i :=
  serveDec_congr_icfg dec i t i.allowAuthorization h (Or.inr rfl)

/-- `new(Middleware)` + `Reconfigure(&c)` is `NewMiddleware(c)`. -/
theorem Mw.zero_reconfigure (ext : Ext) (cfg : Config) :
    Mw.zero.reconfigure ext (some cfg) =
      (match Mw.new ext cfg with | .ok m => (none, m) | .error e => (some e, Mw.zero)) := by
  unfold Mw.new Mw.reconfigure
  cases h : newInternalConfig ext cfg <;> simp [h, Mw.zero]

end Cors
