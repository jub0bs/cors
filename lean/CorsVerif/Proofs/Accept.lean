import CorsVerif.Proofs.Pattern
import CorsVerif.Proofs.Literals
import CorsVerif.Spec.Grammar
/-
  Completeness of the lexers on the documented grammar (C13, "documented forms are accepted"): what a
  documented scheme, label, octet and port are to the lexers, the host forms one by one, and the assembly: once the
  host lexer is known to read `hostStr` before the port part, `Parse` and `ParsePattern` read
  `scheme://hostStr[:port]` into its parts.
-/
namespace Cors
open Gen Spec Pat

/-- The port a documented port part stands for (`0` = absent, `wildcardPort` = `:*`). -/
def docPortValue : Spec.DocPort → Nat
  | .absent => 0
  | .num ds => Spec.portValue ds
  | .any => Facts.origins_wildcardPort

namespace Accept

export Lex (hostOf)

/-- The host loop stops at `r`. -/
abbrev Stops (r : Bytes) : Prop := r.head?.all (fun c => !Lex.isHostByte c) = true

theorem stops_colon (t : Bytes) : Stops (58 :: t) := (by decide : (!Lex.isHostByte 58) = true)

theorem isScheme_doc {s : Bytes} (hs : docScheme s = true) : Lex.IsScheme s ∧ s ≠ file ∧ s.length ≤ 64 := by
  cases s with
  | nil => cases hs
  | cons c t =>
    simp only [docScheme, Bool.and_eq_true, decide_eq_true_eq, bne_iff_ne, ne_eq, List.length_cons] at hs
    obtain ⟨⟨⟨h1, h2⟩, h3⟩, h4⟩ := hs
    refine ⟨⟨c, t, rfl, by rw [Lex.isLowerAlpha_eq, h1], ?_, by simp only [Facts.origins_maxSchemeLen]; omega⟩, h4, h3⟩
    exact List.all_eq_true.mpr fun x hx => by rw [Lex.isSubsequentSchemeByte_eq, List.all_eq_true.mp h2 x hx]; rfl

theorem parsePort_doc (ds : Bytes) (h : docPortOK (.num ds) = true) : Lex.parsePort ds = some (portValue ds, []) := by
  cases ds with
  | nil => cases h
  | cons d t =>
    simp only [docPortOK, Bool.and_eq_true, decide_eq_true_eq] at h
    obtain ⟨⟨⟨h1, h2⟩, h3⟩, h4⟩ := h
    simpa using Lex.parsePort_of (r := []) ⟨by simp [Spec.isDigit, h2]; omega, by simp, by simp; omega, h3⟩ h4 rfl

theorem docLabel_facts {l : Bytes} (h : docLabel l = true) :
    l ≠ [] ∧ l.all Spec.isLDH = true ∧ (46 : Nat) ∉ l ∧ plainLabelOK l = true ∧ l.hasPrefix xnDash = false ∧
    l.head? ≠ some 45 := by
  simp only [docLabel, Bool.and_eq_true, Bool.not_eq_true', decide_eq_true_eq, bne_iff_ne, ne_eq] at h
  obtain ⟨⟨⟨⟨⟨h1, h2⟩, h3⟩, h4⟩, h5⟩, h6⟩ := h
  have hne : l ≠ [] := by intro h0; subst h0; simp at h1
  have h46 : (46 : Nat) ∉ l := Bytes.not_mem_of_all h3 (by decide)
  refine ⟨hne, h3, h46, ?_, ?_, h4⟩
  · unfold plainLabelOK
    simp only [Bool.and_eq_true, Bool.not_eq_true', decide_eq_true_eq, bne_iff_ne, ne_eq, Bool.and_eq_false_iff,
      decide_eq_false_iff_not, beq_eq_false_iff_ne]
    exact ⟨⟨⟨⟨h1, h2⟩, h4⟩, h5⟩, Or.inr h6⟩
  · -- `xn--` has hyphens in positions 3-4
    refine Bool.eq_false_iff.mpr fun hp => ?_
    obtain ⟨t, rfl⟩ := Bytes.hasPrefix_iff.mp hp
    exact h6 rfl

/-- `Spec.docDomain`, unpacked. -/
structure Labels (ls : List Bytes) : Prop where
  ne : ls ≠ []
  all : ∀ l ∈ ls, docLabel l = true
  last : ∃ l, ls.getLast? = some l ∧ l.head?.any Spec.isLower = true
  len : (Bytes.join 46 ls).length ≤ 253

theorem labels_of_doc {ls : List Bytes} (h : docDomain ls = true) : Labels ls := by
  simp only [docDomain, Bool.and_eq_true, Bool.not_eq_true', decide_eq_true_eq, List.all_eq_true] at h
  obtain ⟨⟨⟨h1, h2⟩, h3⟩, h4⟩ := h
  refine ⟨by intro h0; subst h0; simp at h1, h2, ?_, h4⟩
  cases hl : ls.getLast? with
  | none => simp [hl] at h3
  | some l => exact ⟨l, rfl, by simpa [hl] using h3⟩

theorem join_head {ls : List Bytes} {l : Bytes} {rest : List Bytes} (h : ls = l :: rest) (hl : l ≠ []) :
    (Bytes.join 46 ls).head? = l.head? :=
  h ▸ Bytes.join_head? 46 hl rest

/-- What the host lexer needs of a domain's labels; lengths, hyphen positions and Punycode are left to the IDNA check. -/
structure LexLabels (ls : List Bytes) : Prop where
  ne : ls ≠ []
  all : ∀ l ∈ ls, l ≠ [] ∧ l.all Spec.isLDH = true
  last : ∃ l, ls.getLast? = some l ∧ l.head?.any Spec.isLower = true

theorem lex_of_labels {ls : List Bytes} (hL : Labels ls) : LexLabels ls :=
  ⟨hL.ne, fun l hl => by obtain ⟨a, b', _⟩ := docLabel_facts (hL.all l hl); exact ⟨a, b'⟩, hL.last⟩

theorem hostOf_head {ls : List Bytes} (hls : ∀ l ∈ ls, l ≠ [] ∧ l.all Spec.isLDH = true) (hne : ls ≠ []) (dot : Bool) (r : Bytes) :
    ∃ b s, hostOf ls dot ++ r = b :: s ∧ Spec.isLDH b = true := by
  obtain ⟨l, rest, rfl⟩ := List.exists_cons_of_ne_nil hne
  obtain ⟨hne, hall⟩ := hls l List.mem_cons_self
  obtain ⟨b, t, rfl⟩ := List.exists_cons_of_ne_nil hne
  simp only [List.all_cons, Bool.and_eq_true] at hall
  exact ⟨b, _, by rw [hostOf, Bytes.join_cons]; rfl, hall.1⟩

theorem fastParseHost_labels {ls : List Bytes} (hls : ∀ l ∈ ls, l ≠ [] ∧ l.all Spec.isLDH = true) {c : Nat} {t : Bytes}
    (hlast : ls.getLast? = some (c :: t)) (dot : Bool) {r : Bytes} (hr : Stops r) :
    Lex.fastParseHost (hostOf ls dot ++ r) = some (⟨hostOf ls dot, Spec.isDigit c⟩, r) := by
  have hl := Lex.hostLoop_labels hls hlast dot hr (ps := false) (ip := false) (fst := true) (Or.inr ⟨rfl, rfl⟩)
  obtain ⟨b, s, hs, hb⟩ := hostOf_head hls (by rintro rfl; cases hlast) dot r
  rw [hs] at hl ⊢
  exact Lex.fastParseHost_eq_some.mpr
    (.plain (by rintro rfl; exact absurd hb (by decide)) (by rintro rfl; exact absurd hb (by decide)) hl)

theorem isLower_not_digit {c : Nat} (h : Spec.isLower c = true) : Spec.isDigit c = false := by
  simp only [Spec.isLower, Spec.isDigit, Bool.and_eq_true, decide_eq_true_eq, Bool.and_eq_false_iff, decide_eq_false_iff_not] at h ⊢
  omega

theorem peekKind_ldh {b : Nat} (hb : Spec.isLDH b = true) (s : Bytes) : peekKind (b :: s) = .domain :=
  peekKind_of_ne (by rintro rfl; exact absurd hb (by decide)) s

theorem fastParseHost_lex {ls : List Bytes} (hL : LexLabels ls) (dot : Bool) {r : Bytes} (hr : Stops r) :
    Lex.fastParseHost (hostOf ls dot ++ r) = some (⟨hostOf ls dot, false⟩, r) := by
  obtain ⟨l, hl, hlow⟩ := hL.last
  obtain ⟨c, t, rfl⟩ := List.exists_cons_of_ne_nil (hL.all l (List.mem_of_getLast? hl)).1
  rw [fastParseHost_labels hL.all hl dot hr, isLower_not_digit (by simpa using hlow)]

theorem parseHostPattern_lex (ext : Ext) {ls : List Bytes} (hL : LexLabels ls) (dot wild : Bool)
    (hid : idnaOK ext (hostOf ls dot) = true)
    (hw : wild = true → (hostOf ls dot).length ≤ 251) (r : Bytes) (hr : Stops r) :
    parseHostPattern ext ((if wild then [42, 46] else []) ++ hostOf ls dot ++ r) =
      .ok ((if wild then [42, 46] else []) ++ hostOf ls dot, if wild then Kind.subdomains else Kind.domain, r) := by
  have hf := fastParseHost_lex hL dot hr
  cases wild
  · obtain ⟨b, s, hs, hb⟩ := hostOf_head hL.all hL.ne dot r
    exact parseHostPattern_eq_ok.mpr (.domain (by simpa [hs] using peekKind_ldh hb s) (by simpa using hf) hid)
  · simpa using parseHostPattern_eq_ok.mpr (.wild hf (hw rfl) hid)

/-- The host splits back into its labels (and an empty one after a trailing dot, which `plainIdnaOK` drops). -/
theorem plainIdnaOK_hostOf {ls : List Bytes} (hne : ls ≠ []) (hls : ∀ l ∈ ls, l ≠ [] ∧ (46 : Nat) ∉ l) (dot : Bool) :
    hasXnLabel (hostOf ls dot) = ls.any (·.hasPrefix xnDash) ∧
    plainIdnaOK (hostOf ls dot) = (ls.all plainLabelOK && decide ((Bytes.join 46 ls).length ≤ 253)) := by
  have hj := Bytes.splitOn_join 46 ls hne (fun l hl => (hls l hl).2)
  have e1 : (Bytes.join 46 ls).isEmpty = false := by
    obtain ⟨x, xs, rfl⟩ := List.exists_cons_of_ne_nil hne
    simpa using Bytes.join_ne_nil 46 (hls x List.mem_cons_self).1 xs
  have e2 : ls.isEmpty = false := by simpa using hne
  cases dot
  · -- no trailing dot: the last label is not empty and the last byte, a byte of the last label, is no dot
    have hl := List.getLast?_eq_some_getLast hne
    obtain ⟨hlne, hl46⟩ := hls _ (List.mem_of_getLast? hl)
    have h1 : (some (ls.getLast hne) == some ([] : Bytes)) = false := by
      cases h : ls.getLast hne with
      | nil => exact absurd h hlne
      | cons _ _ => rfl
    have h2 : ((Bytes.join 46 ls).getLast? == some Facts.origins_labelSep) = false := by
      rw [Bytes.join_getLast? 46 ls hl hlne]
      simpa [Facts.origins_labelSep] using fun h => hl46 (List.mem_of_getLast? h)
    simp [hostOf, hasXnLabel, plainIdnaOK, trimDot, hj, hl, h1, h2, e1, e2]
  · have e3 : (Bytes.join 46 ls ++ [46]).isEmpty = false := by cases Bytes.join 46 ls <;> rfl
    simp [hostOf, hasXnLabel, plainIdnaOK, trimDot, Bytes.splitOn_snoc, hj, e2, e3, Facts.origins_labelSep, xnDash, Bytes.hasPrefix]

theorem idna_doc (ext : Ext) {ls : List Bytes} (hL : Labels ls) (dot : Bool) : idnaOK ext (hostOf ls dot) = true := by
  obtain ⟨hxn, hplain⟩ := plainIdnaOK_hostOf hL.ne
    (fun l hl => ⟨(docLabel_facts (hL.all l hl)).1, (docLabel_facts (hL.all l hl)).2.2.1⟩) dot
  have h1 : ls.any (·.hasPrefix xnDash) = false :=
    List.any_eq_false.mpr fun l hl => by rw [(docLabel_facts (hL.all l hl)).2.2.2.2.1]; simp
  have h2 : ls.all plainLabelOK = true := List.all_eq_true.mpr fun l hl => (docLabel_facts (hL.all l hl)).2.2.2.1
  rw [idnaOK, hxn, h1, hplain, h2, decide_eq_true hL.len]
  rfl

theorem digit_isLDH {c : Nat} (h : Spec.isDigit c = true) : Spec.isLDH c = true := by
  unfold Spec.isLDH; rw [h]; simp

theorem docOctet_facts {f : Bytes} (h : docOctet f = true) :
    f ≠ [] ∧ f.all Spec.isDigit = true ∧ f.all Spec.isLDH = true ∧ octetOK f = true :=
  have ⟨hne, hd⟩ := octetOK_digits h
  ⟨hne, hd, List.all_eq_true.mpr fun c hc => digit_isLDH (List.all_eq_true.mp hd c hc), h⟩

theorem firstIPMark_digits (ds rest : Bytes) (hd : ds.all Spec.isDigit = true) : firstIPMark (ds ++ 46 :: rest) = some 46 := by
  refine firstIPMark_append (List.all_eq_true.mpr fun b hb => ?_) rfl rest
  have := List.all_eq_true.mp hd b hb
  simp only [Spec.isDigit, Bool.and_eq_true, decide_eq_true_eq] at this
  simp only [Bool.not_eq_true', Bool.or_eq_false_iff, beq_eq_false_iff_ne]
  omega

theorem fastParseHost_v4 (a b c d : Bytes) (ha : docOctet a = true) (hb : docOctet b = true) (hc : docOctet c = true)
    (hd : docOctet d = true) (r : Bytes) (hr : Stops r) :
    Lex.fastParseHost (Bytes.join 46 [a, b, c, d] ++ r) = some ({ value := Bytes.join 46 [a, b, c, d], assumeIP := true }, r) := by
  obtain ⟨ane, _, aldh, _⟩ := docOctet_facts ha
  obtain ⟨bne, _, bldh, _⟩ := docOctet_facts hb
  obtain ⟨cne, _, cldh, _⟩ := docOctet_facts hc
  obtain ⟨dne, ddig, dldh, _⟩ := docOctet_facts hd
  obtain ⟨x, t, rfl⟩ := List.exists_cons_of_ne_nil dne
  have hls : ∀ l ∈ [a, b, c, x :: t], l ≠ [] ∧ l.all Spec.isLDH = true := by
    intro l hl
    simp only [List.mem_cons, List.not_mem_nil, or_false] at hl
    rcases hl with rfl | rfl | rfl | rfl <;> exact ⟨‹_›, ‹_›⟩
  have := fastParseHost_labels hls rfl false hr
  simp only [List.all_cons, Bool.and_eq_true] at ddig
  simpa [hostOf, ddig.1] using this

theorem parseHostPattern_v4 (ext : Ext) (a b c d : Bytes) (ha : docOctet a = true) (hb : docOctet b = true)
    (hc : docOctet c = true) (hd : docOctet d = true) (r : Bytes) (hr : Stops r) :
    parseHostPattern ext (Bytes.join 46 [a, b, c, d] ++ r) =
      .ok (Bytes.join 46 [a, b, c, d], if a == [49, 50, 55] then Kind.loopbackIP else Kind.nonLoopbackIP, r) := by
  obtain ⟨ane, adig, _⟩ := docOctet_facts ha
  have hjoin : Bytes.join 46 [a, b, c, d] = a ++ 46 :: (b ++ 46 :: (c ++ 46 :: d)) := by simp [Bytes.join]
  have hverdict : ipVerdict ext (Bytes.join 46 [a, b, c, d]) = .ok (a == [49, 50, 55]) :=
    ipVerdict_eq_ok.mpr (.inl ⟨hjoin ▸ firstIPMark_digits a _ adig, parseIPv4_eq_some.mpr ⟨a, b, c, d, rfl, ha, hb, hc, hd, rfl⟩⟩)
  -- the first byte is a digit, not `*`
  obtain ⟨x, t, rfl⟩ := List.exists_cons_of_ne_nil ane
  have hx : Spec.isDigit x = true := by simp only [List.all_cons, Bool.and_eq_true] at adig; exact adig.1
  have hpk : peekKind (Bytes.join 46 [x :: t, b, c, d] ++ r) = .domain := by
    simpa [hjoin] using peekKind_ldh (digit_isLDH hx) _
  exact parseHostPattern_eq_ok.mpr (.ip hpk (fastParseHost_v4 _ b c d ha hb hc hd r hr) hverdict)

theorem parseHostPattern_v6 (ext : Ext) (lit : Bytes) (info : IP6Info) (hlen : 2 ≤ lit.length) (hnb : (93 : Nat) ∉ lit)
    (hmark : firstIPMark lit = some 58) (horacle : ext.ip6 lit = some info)
    (hz : info.zone = false) (h46 : info.is4in6 = false) (hcanon : info.canon = lit) (r : Bytes) :
    parseHostPattern ext (91 :: lit ++ 93 :: r) =
      .ok (lit, if info.loopback then Kind.loopbackIP else Kind.nonLoopbackIP, r) :=
  parseHostPattern_eq_ok.mpr (.ip (peekKind_of_ne (by decide) _)
    (Lex.fastParseHost_eq_some.mpr (.bracket (by omega) hnb))
    (ipVerdict_eq_ok.mpr (.inr ⟨hmark, info, horacle, hz, h46, hcanon, rfl⟩)))

def portStr : DocPort → Bytes
  | .absent => []
  | .num ds => 58 :: ds
  | .any => [58, 42]

/-- The port `Parse` returns for it (`0` = absent); on `:*`, which is no origin's port part, the value is arbitrary. -/
def portNum : DocPort → Nat
  | .num ds => portValue ds
  | _ => 0

theorem stops_portStr (p : DocPort) : Stops (portStr p) := by
  cases p with
  | absent => rfl
  | num ds => exact stops_colon ds
  | any => exact stops_colon [42]

theorem portStr_length {p : DocPort} (hp : docPortOK p = true) : (portStr p).length ≤ 6 := by
  cases p with
  | num ds =>
    simp only [docPortOK, Bool.and_eq_true, decide_eq_true_eq] at hp
    simp only [portStr, List.length_cons]; omega
  | _ => simp [portStr]

theorem portPattern_doc {p : DocPort} (hp : docPortOK p = true) :
    (portStr p = [] ∧ docPortValue p = 0) ∨
    ∃ r, (portStr p).cutPrefix [Facts.origins_hostPortSep] = some r ∧ parsePortPattern r = some (docPortValue p, []) := by
  cases p with
  | absent => exact Or.inl ⟨rfl, rfl⟩
  | any => exact Or.inr ⟨[42], rfl, rfl⟩
  | num ds =>
    refine Or.inr ⟨ds, Bytes.cutPrefix_eq_some.mpr rfl, ?_⟩
    cases ds with
    | nil => cases hp
    | cons d t =>
      have hd : d ≠ 42 := by
        simp only [docPortOK, Bool.and_eq_true, decide_eq_true_eq] at hp; omega
      simp only [parsePortPattern, Bytes.cutPrefix, Facts.origins_portWildcard, beq_iff_eq, hd, if_false]
      exact parsePort_doc _ hp

theorem sep_eq : Spec.b "://" = Facts.origins_schemeHostSep := by
  rw [Spec.b_ofList]; rfl

theorem render_ne {scheme rest : Bytes} :
    scheme ++ Facts.origins_schemeHostSep ++ rest ≠ Pat.star ∧ scheme ++ Facts.origins_schemeHostSep ++ rest ≠ Pat.null := by
  have h58 : (58 : Nat) ∈ scheme ++ Facts.origins_schemeHostSep ++ rest :=
    List.mem_append_left _ (List.mem_append_right _ (by decide))
  constructor <;> (intro h0; rw [h0] at h58; revert h58; decide)

theorem parseScheme_sep {scheme : Bytes} (hs : Lex.IsScheme scheme) (t : Bytes) :
    Lex.parseScheme (scheme ++ Facts.origins_schemeHostSep ++ t) = some (scheme, Facts.origins_schemeHostSep ++ t) := by
  rw [List.append_assoc]
  exact Lex.parseScheme_of hs (by show (!Lex.isSubsequentSchemeByte 58) = true; decide)

theorem parsePattern_of_parts (ext : Ext) {scheme hostStr value r3 : Bytes} {kind : Kind} {port : Nat}
    (hs : Lex.IsScheme scheme) (hnf : scheme ≠ file)
    (hhp : parseHostPattern ext (hostStr ++ r3) = .ok (value, kind, r3))
    (hport : (r3 = [] ∧ port = 0) ∨
      ∃ r4, r3.cutPrefix [Facts.origins_hostPortSep] = some r4 ∧ parsePortPattern r4 = some (port, []))
    (hip : ¬ ((kind = .loopbackIP ∨ kind = .nonLoopbackIP) ∧ scheme = Facts.origins_schemeHTTPS))
    (hdef : isDefaultPortForScheme scheme port = false) :
    parsePattern ext (scheme ++ Facts.origins_schemeHostSep ++ (hostStr ++ r3)) =
      .ok { scheme := scheme, value := value, kind := kind, port := port } :=
  parsePattern_eq_ok.mpr ⟨render_ne.1, render_ne.2,
    ⟨_, parseScheme_sep hs _, _, Bytes.cutPrefix_eq_some.mpr rfl, _, hhp, hport⟩, hnf, hip, hdef⟩

/-- `parsePattern_of_parts` for a documented scheme and port part. -/
theorem parsePattern_assemble (ext : Ext) {scheme hostStr value : Bytes} {kind : Kind} {p : DocPort}
    (hs : docScheme scheme = true) (hp : docPortOK p = true)
    (hhp : parseHostPattern ext (hostStr ++ portStr p) = .ok (value, kind, portStr p))
    (hip : (kind = .loopbackIP ∨ kind = .nonLoopbackIP) → scheme ≠ Facts.origins_schemeHTTPS)
    (hdef : isDefaultPortForScheme scheme (docPortValue p) = false) :
    parsePattern ext (scheme ++ Spec.b "://" ++ hostStr ++ portStr p) =
      .ok { scheme := scheme, value := value, kind := kind, port := docPortValue p } := by
  rw [List.append_assoc _ hostStr, sep_eq]
  exact parsePattern_of_parts ext (isScheme_doc hs).1 (isScheme_doc hs).2.1 hhp (portPattern_doc hp) (fun h => hip h.1 h.2) hdef

/-- `hlen`: `maxHostLen` and a trailing dot; with a scheme of 64, `://` and a port part of 6 that is exactly `maxOriginLen`. -/
theorem parse_assemble (scheme hostStr : Bytes) (host : Host) (p : DocPort)
    (hs : docScheme scheme = true) (hp : docPortOK p = true) (hany : p ≠ .any)
    (hfp : Lex.fastParseHost (hostStr ++ portStr p) = some (host, portStr p))
    (hlen : hostStr.length ≤ Facts.origins_maxHostLen + 1) :
    Lex.parse (scheme ++ Spec.b "://" ++ hostStr ++ portStr p) = some { scheme := scheme, host := host, port := portNum p } := by
  rw [List.append_assoc _ hostStr, sep_eq]
  refine Lex.parse_eq_some.mpr ⟨?_, _, _, parseScheme_sep (isScheme_doc hs).1 _, hfp, ?_⟩
  · have h1 := (isScheme_doc hs).2.2
    have h3 := portStr_length hp
    simp only [List.length_append, show Facts.origins_schemeHostSep.length = 3 from rfl, Facts.origins_Parse_maxOriginLen]
    simp only [Facts.origins_maxHostLen] at hlen
    omega
  · cases p with
    | absent => exact Or.inl ⟨rfl, rfl⟩
    | any => exact absurd rfl hany
    | num ds => exact Or.inr ⟨ds, rfl, parsePort_doc ds hp⟩

/-- Also at all length maxima at once: the `+ 1` of `maxOriginLen` is the trailing dot. -/
theorem parse_domain {scheme : Bytes} {ls : List Bytes} {p : DocPort} (hs : docScheme scheme = true) (hL : Labels ls)
    (dot : Bool) (hp : docPortOK p = true) (hany : p ≠ .any) :
    Lex.parse (scheme ++ Spec.b "://" ++ hostOf ls dot ++ portStr p) =
      some { scheme := scheme, host := ⟨hostOf ls dot, false⟩, port := portNum p } := by
  refine parse_assemble scheme _ _ p hs hp hany (fastParseHost_lex (lex_of_labels hL) dot (stops_portStr p)) ?_
  have h2 := hL.len
  have h4 : (if dot = true then [46] else []).length ≤ 1 := by cases dot <;> simp
  simp only [hostOf, List.length_append, Facts.origins_maxHostLen]
  omega

theorem render_plain {d : DocPattern} (hw : d.wildcard = false) :
    d.render = d.scheme ++ Spec.b "://" ++ d.host ++ portStr d.port := by
  have hport : d.portString = portStr d.port := by unfold DocPattern.portString portStr; cases d.port <;> rfl
  simp [DocPattern.render, DocPattern.hostPattern, hw, hport]

end Accept
end Cors
