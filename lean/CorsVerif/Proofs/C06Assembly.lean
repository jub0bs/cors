import CorsVerif.Proofs.TreeRoundTrip
import CorsVerif.Proofs.CfgRoundTrip
import CorsVerif.Proofs.Accepted
import CorsVerif.Proofs.Serve
/-
  What C06 and C15 share, and what C06 needs beside the round trips of the list fields.  Shared: internal
  configurations equal in every field but the tree and, where it is not read, the Authorization flag (`SameBut`)
  build the same handler (`serve_congr`) and show the same `Config()` but for `Origins` (`SameBut.config`).  For C06:
  the round trip of `Origins` up to `TreeEquiv` (`origins_part`), and `build_sameBut`: a configuration whose
  validators agree field by field with those of an accepted one is accepted and builds such an internal
  configuration.  The assembly itself is `C06A.roundtrip` (Props/C06.lean).
-/
namespace Cors
open Gen Validate CfgRT TreeRT

namespace C06A

theorem newConfig_eq (icfg : ICfg) :
    newConfig icfg =
      { origins := if icfg.tree.isEmpty then [Validate.star] else Tree.elems icfg.tree,
        credentialed := icfg.credentialed,
        methods := renderMethods icfg.allowAnyMethod icfg.allowedMethods,
        requestHeaders := renderReqHdrs icfg.credentialed icfg.asteriskReqHdrs icfg.allowAuthorization icfg.allowedReqHdrs,
        maxAge := renderMaxAge icfg.acma,
        responseHeaders := renderResHdrs icfg.aceh,
        status := if (icfg.statusMinus200 + 200) % 256 != Facts.cors_defaultPreflightStatus % 256 then (icfg.statusMinus200 : Int) + 200 else 0,
        pna := icfg.pna, pnaNoCors := icfg.pnaNoCors, tolInsecure := icfg.insecureOrigins, tolPSL := icfg.subsOfPublicSuffixes } := by
  unfold newConfig renderMethods renderReqHdrs renderMaxAge renderResHdrs
  rfl

/-- Two trees that the handler cannot tell apart. -/
def TreeEquiv (t' t : Tree) : Prop :=
  t'.isEmpty = t.isEmpty ∧ ∀ o : Origin, o.port ≤ 65535 → Tree.contains t' o = Tree.contains t o

/-- The origins of `Config()` validate without error to an equivalent tree. -/
theorem origins_part (ext : Ext) (hext : ∀ h info, ext.ip6 h = some info → h.head? ≠ some 42)
    (cred pna tolI tolP : Bool) (raws : List Bytes) (h : Acceptable ext cred pna tolI tolP raws) :
    originsOf ext cred pna tolI tolP raws ≠ [] ∧
      (Validate.origins ext cred pna tolI tolP (originsOf ext cred pna tolI tolP raws)).1 = [] ∧
      TreeEquiv (Validate.origins ext cred pna tolI tolP (originsOf ext cred pna tolI tolP raws)).2
        (Validate.origins ext cred pna tolI tolP raws).2 := by
  have h' := originsOf_acceptable ext hext cred pna tolI tolP raws h
  refine ⟨h'.ne, ?_, ?_⟩
  · rw [origins_eq _ _ _ _ _ _ h'.ne]
    exact List.flatMap_eq_nil_iff.mpr h'.clean
  · rw [origins_tree, origins_tree]
    cases hs : raws.contains Validate.star with
    | true =>
      rw [originsOf_star ext cred pna tolI tolP raws hs]
      exact ⟨rfl, fun _ _ => rfl⟩
    | false =>
      obtain ⟨e1, a1, s1⟩ := originsOf_plain ext hext cred pna tolI tolP raws h hs
      rw [e1, s1, if_neg Bool.false_ne_true, if_neg Bool.false_ne_true]
      exact ⟨by rw [build_nonempty ext _ (a1.parsed_ne s1), build_nonempty ext _ (h.parsed_ne hs)],
        contains_rebuild ext hext raws⟩

/-- Two internal configurations equal in every field but two: the trees need only accept the same origins
(`TreeEquiv`), and `allowAuthorization` may differ under a credentialed `*`, where neither the handler nor
`Config()` reads it. -/
structure SameBut (i1 i2 : ICfg) : Prop where
  tree : TreeEquiv i1.tree i2.tree
  allowedMethods : i1.allowedMethods = i2.allowedMethods
  allowedReqHdrs : i1.allowedReqHdrs = i2.allowedReqHdrs
  acah : i1.acah = i2.acah
  statusMinus200 : i1.statusMinus200 = i2.statusMinus200
  credentialed : i1.credentialed = i2.credentialed
  allowAnyMethod : i1.allowAnyMethod = i2.allowAnyMethod
  asteriskReqHdrs : i1.asteriskReqHdrs = i2.asteriskReqHdrs
  allowAuthorization : (i2.asteriskReqHdrs && i2.credentialed) = true ∨ i1.allowAuthorization = i2.allowAuthorization
  pna : i1.pna = i2.pna
  pnaNoCors : i1.pnaNoCors = i2.pnaNoCors
  acma : i1.acma = i2.acma
  aceh : i1.aceh = i2.aceh
  subsOfPublicSuffixes : i1.subsOfPublicSuffixes = i2.subsOfPublicSuffixes
  insecureOrigins : i1.insecureOrigins = i2.insecureOrigins

theorem serve_congr {i1 i2 : ICfg} (h : SameBut i1 i2) : Serve.serve i1 = Serve.serve i2 := by
  have hdec : Serve.modelDec i1 = Serve.modelDec i2 := by
    unfold Serve.modelDec
    rw [h.allowedReqHdrs]
    congr 1
    funext raw
    cases hp : Lex.parse raw with
    | none => rfl
    | some o => exact h.tree.2 o (parse_port_le hp)
  -- `i1` is `i2` with another tree and another Authorization flag
  have hi : i1 = { i2 with tree := i1.tree, allowAuthorization := i1.allowAuthorization } := by
    cases i1; cases i2
    simp only [ICfg.mk.injEq, true_and]
    exact ⟨h.allowedMethods, h.allowedReqHdrs, h.acah, h.statusMinus200, h.credentialed, h.allowAnyMethod, h.asteriskReqHdrs,
      h.pna, h.pnaNoCors, h.acma, h.aceh, h.subsOfPublicSuffixes, h.insecureOrigins⟩
  unfold Serve.serve
  rw [hdec, hi]
  exact serveDec_congr_icfg _ i2 _ _ h.tree.1 h.allowAuthorization

/-- **Validation depends on a configuration only through the validators' results.**  If `c'` validates, field by
field, to what `c` validates to (the tree up to equivalence, the Authorization flag up to where it is read), then `c'`
is accepted whenever `c` is, and the two internal configurations agree on everything the handler reads. -/
theorem build_sameBut {ext : Ext} {c c' : Config} (hacc : allErrs ext c = [])
    (hcred : c'.credentialed = c.credentialed) (hpna : c'.pna = c.pna) (hpnc : c'.pnaNoCors = c.pnaNoCors)
    (hti : c'.tolInsecure = c.tolInsecure) (htp : c'.tolPSL = c.tolPSL)
    (hS : Validate.status c'.status = .ok (Validate.build ext c).statusMinus200)
    (hOne : c'.origins ≠ []) (hOerr : (originsResult ext c').1 = []) (hOtree : TreeEquiv (originsResult ext c').2 (Validate.build ext c).tree)
    (hM : Validate.methods c'.methods = ([], (Validate.build ext c).allowAnyMethod, (Validate.build ext c).allowedMethods))
    {auth : Bool}
    (hQ : Validate.requestHeaders c'.credentialed c'.requestHeaders =
      ([], (Validate.build ext c).asteriskReqHdrs, auth, (Validate.build ext c).allowedReqHdrs, (Validate.build ext c).acah))
    (hQa : ((Validate.build ext c).asteriskReqHdrs && c.credentialed) = false → auth = (Validate.build ext c).allowAuthorization)
    (hA : Validate.maxAge c'.maxAge = Validate.maxAge c.maxAge)
    (hE : Validate.responseHeaders c'.credentialed c'.responseHeaders = ([], (Validate.build ext c).aceh)) :
    allErrs ext c' = [] ∧ SameBut (Validate.build ext c') (Validate.build ext c) := by
  obtain ⟨_, h1, h5, _⟩ := (allErrs_nil_iff ext c).mp hacc
  constructor
  · have e2 : originErrs ext c' = [] := by
      unfold originErrs
      rw [if_neg (by simpa using hOne), hOerr]; rfl
    unfold allErrs
    rw [show statusErrs c' = [] by unfold statusErrs; rw [hS],
      show pnaErrs c' = pnaErrs c by unfold pnaErrs; rw [hpna, hpnc], h1, e2,
      show methodErrs c' = [] by unfold methodErrs; rw [hM]; rfl,
      show reqHdrErrs c' = [] by unfold reqHdrErrs; rw [hQ]; rfl,
      show maxAgeErrs c' = maxAgeErrs c by unfold maxAgeErrs; rw [hA], h5,
      show resHdrErrs c' = [] by unfold resHdrErrs; rw [hE]; rfl]
    rfl
  · -- each field of `Validate.build ext c'` is a component of one validator's result
    exact {
      tree := hOtree
      allowedMethods := congrArg (·.2.2) hM
      allowedReqHdrs := congrArg (·.2.2.2.1) hQ
      acah := congrArg (·.2.2.2.2) hQ
      statusMinus200 := congrArg (fun r => match r with | .ok v => v | .error _ => 0) hS
      credentialed := hcred
      allowAnyMethod := congrArg (·.2.1) hM
      asteriskReqHdrs := congrArg (·.2.1) hQ
      allowAuthorization := by
        cases hx : ((Validate.build ext c).asteriskReqHdrs && c.credentialed)
        · exact Or.inr ((congrArg (·.2.2.1) hQ).trans (hQa hx))
        · exact Or.inl hx
      pna := hpna
      pnaNoCors := hpnc
      acma := congrArg (fun r => match r with | .ok v => v | .error _ => []) hA
      aceh := congrArg (·.2) hE
      subsOfPublicSuffixes := htp
      insecureOrigins := hti }

theorem SameBut.config {i1 i2 : ICfg} (h : SameBut i1 i2) :
    (newConfig i1).credentialed = (newConfig i2).credentialed ∧
    (newConfig i1).methods = (newConfig i2).methods ∧
    (newConfig i1).requestHeaders = (newConfig i2).requestHeaders ∧
    (newConfig i1).maxAge = (newConfig i2).maxAge ∧
    (newConfig i1).responseHeaders = (newConfig i2).responseHeaders ∧
    (newConfig i1).status = (newConfig i2).status ∧
    (newConfig i1).pna = (newConfig i2).pna ∧ (newConfig i1).pnaNoCors = (newConfig i2).pnaNoCors ∧
    (newConfig i1).tolInsecure = (newConfig i2).tolInsecure ∧ (newConfig i1).tolPSL = (newConfig i2).tolPSL := by
  rw [newConfig_eq i1, newConfig_eq i2]
  rw [h.credentialed, h.allowAnyMethod, h.allowedMethods, h.asteriskReqHdrs, h.allowedReqHdrs, h.acma, h.aceh, h.statusMinus200,
    h.pna, h.pnaNoCors, h.insecureOrigins, h.subsOfPublicSuffixes]
  refine ⟨rfl, rfl, ?_, rfl, rfl, rfl, rfl, rfl, rfl, rfl⟩
  -- the Authorization flag may differ only under a credentialed `*`, where it is not rendered
  rcases h.allowAuthorization with hx | hau
  · simp only [Bool.and_eq_true] at hx
    unfold renderReqHdrs
    rw [hx.2, hx.1]; rfl
  · rw [hau]

end C06A
end Cors
