import CorsVerif.Proofs.Serve
import CorsVerif.Proofs.NamesNe
/-
  The preflight pipeline in closed form.  Each step is "if its condition holds, one optional write of the value decided
  for its header, otherwise failure" (`process*_closed`); hence `preflightSteps` is a cascade of the four conditions whose
  buffers are prefixes of one chain of five optional writes (`preflightSteps_closed`), and the response to a preflight
  is the Vary step, those of the five values that were decided and copied, and Max-Age (`handleCORSPreflight_closed`).
-/
namespace Cors
open Gen Serve NamesNe

-- The four documented conditions of a preflight, debug off.
def originCond (dec : Dec) (icfg : ICfg) (o : Bytes) : Bool :=
  dec.parses o && ((!icfg.credentialed && icfg.tree.isEmpty) || dec.allowed o)

def pnaCond (icfg : ICfg) (reqHdrs : HdrMap) : Bool :=
  !(reqHdrs.first Facts.headers_ACRPN == some Facts.headers_ValueTrue) || icfg.pna || icfg.pnaNoCors

def methodCond (icfg : ICfg) (m : Bytes) : Bool :=
  Methods.isSafelisted m || icfg.allowAnyMethod || icfg.allowedMethods.contains m

def headerCond (dec : Dec) (icfg : ICfg) (reqHdrs : HdrMap) : Bool :=
  match reqHdrs Facts.headers_ACRH with
  | none => true
  | some lines => icfg.asteriskReqHdrs || (icfg.allowedReqHdrs.size != 0 && dec.acrhOK lines)

/-- The header step in either debug mode: the scan of the lines is replaced in debug mode by
"a discrete list is configured". -/
def headerCondD (dec : Dec) (icfg : ICfg) (reqHdrs : HdrMap) (debug : Bool) : Bool :=
  match reqHdrs Facts.headers_ACRH with
  | none => true
  | some lines => icfg.asteriskReqHdrs ||
      (if debug then !icfg.acah.isEmpty else (icfg.allowedReqHdrs.size != 0 && dec.acrhOK lines))

theorem headerCondD_false (dec : Dec) (icfg : ICfg) (reqHdrs : HdrMap) :
    headerCondD dec icfg reqHdrs false = headerCond dec icfg reqHdrs := by
  unfold headerCondD headerCond
  cases reqHdrs Facts.headers_ACRH <;> rfl

namespace Pipeline

/-- `expX` (expected X): the value a successful step decides for header X; `none`: it writes nothing. -/
def expACAO (icfg : ICfg) (o : Bytes) : Option (List Bytes) :=
  if !icfg.credentialed && icfg.tree.isEmpty then some Facts.headers_WildcardSgl else some [o]

def expACAC (icfg : ICfg) : Option (List Bytes) :=
  if !icfg.credentialed && icfg.tree.isEmpty then none
  else if icfg.credentialed then some Facts.headers_TrueSgl else none

def expACAPN (reqHdrs : HdrMap) : Option (List Bytes) :=
  if reqHdrs.first Facts.headers_ACRPN == some Facts.headers_ValueTrue then some Facts.headers_TrueSgl else none

def expACAM (icfg : ICfg) (m : Bytes) : Option (List Bytes) :=
  if Methods.isSafelisted m then none
  else if icfg.allowAnyMethod && !icfg.credentialed then some Facts.headers_WildcardSgl
  else some [m]

def expACAH (icfg : ICfg) (debug : Bool) (reqHdrs : HdrMap) : Option (List Bytes) :=
  match reqHdrs Facts.headers_ACRH with
  | none => none
  | some acrh =>
    if icfg.asteriskReqHdrs && !icfg.credentialed then
      (if icfg.allowAuthorization then some Facts.headers_WildcardAuthSgl else some Facts.headers_WildcardSgl)
    else if icfg.asteriskReqHdrs && icfg.credentialed then some acrh
    else if !debug then some acrh
    else some icfg.acah

theorem expACAH_debug (icfg : ICfg) (reqHdrs : HdrMap) :
    expACAH icfg true reqHdrs = expACAH icfg false reqHdrs ∨ expACAH icfg true reqHdrs = some icfg.acah := by
  unfold expACAH
  cases reqHdrs Facts.headers_ACRH with
  | none => exact Or.inl rfl
  | some lines =>
    cases icfg.asteriskReqHdrs
    · exact Or.inr rfl
    · cases icfg.credentialed <;> exact Or.inl rfl

/-- Five optional writes into the empty map, in the order of the steps. -/
def pipelineBuf (a c p m h : Option (List Bytes)) : Buf :=
  ((((HdrMap.empty.putOpt Facts.headers_ACAO a).putOpt Facts.headers_ACAC c).putOpt Facts.headers_ACAPN p).putOpt
    Facts.headers_ACAM m).putOpt Facts.headers_ACAH h

theorem pipelineBuf_acao (a c p m h : Option (List Bytes)) : pipelineBuf a c p m h Facts.headers_ACAO = a := by
  unfold pipelineBuf
  rw [putOpt_other _ _ acao_acah, putOpt_other _ _ acao_acam, putOpt_other _ _ acao_acapn, putOpt_other _ _ acao_acac,
    putOpt_same]
  exact Option.or_none

theorem pipelineBuf_acac (a c p m h : Option (List Bytes)) : pipelineBuf a c p m h Facts.headers_ACAC = c := by
  unfold pipelineBuf
  rw [putOpt_other _ _ acac_acah, putOpt_other _ _ acac_acam, putOpt_other _ _ acac_acapn, putOpt_same,
    putOpt_other _ _ acac_acao]
  exact Option.or_none

theorem pipelineBuf_acapn (a c p m h : Option (List Bytes)) : pipelineBuf a c p m h Facts.headers_ACAPN = p := by
  unfold pipelineBuf
  rw [putOpt_other _ _ acapn_acah, putOpt_other _ _ acapn_acam, putOpt_same, putOpt_other _ _ acapn_acac,
    putOpt_other _ _ acapn_acao]
  exact Option.or_none

theorem pipelineBuf_acam (a c p m h : Option (List Bytes)) : pipelineBuf a c p m h Facts.headers_ACAM = m := by
  unfold pipelineBuf
  rw [putOpt_other _ _ acam_acah, putOpt_same, putOpt_other _ _ acam_acapn, putOpt_other _ _ acam_acac,
    putOpt_other _ _ acam_acao]
  exact Option.or_none

theorem pipelineBuf_acah (a c p m h : Option (List Bytes)) : pipelineBuf a c p m h Facts.headers_ACAH = h := by
  unfold pipelineBuf
  rw [putOpt_same, putOpt_other _ _ acah_acam, putOpt_other _ _ acah_acapn, putOpt_other _ _ acah_acac,
    putOpt_other _ _ acah_acao]
  exact Option.or_none

/-- The five headers the pipeline can put into the buffer. -/
def isPipelineKey (k : Bytes) : Prop :=
  k = Facts.headers_ACAO ∨ k = Facts.headers_ACAC ∨ k = Facts.headers_ACAPN ∨ k = Facts.headers_ACAM ∨ k = Facts.headers_ACAH

theorem pipelineBuf_other (a c p m h : Option (List Bytes)) {k : Bytes} (hk : ¬ isPipelineKey k) :
    pipelineBuf a c p m h k = none := by
  simp only [isPipelineKey, not_or] at hk
  unfold pipelineBuf
  rw [putOpt_other _ _ hk.2.2.2.2, putOpt_other _ _ hk.2.2.2.1, putOpt_other _ _ hk.2.2.1, putOpt_other _ _ hk.2.1,
    putOpt_other _ _ hk.1]
  rfl

/-- The header map of a preflight response: the Vary step, the copied buffer, Max-Age. -/
def preflightWritten (h : HdrMap) (a c p m hh x : Option (List Bytes)) : HdrMap :=
  ((preflightVary h).copy (pipelineBuf a c p m hh)).putOpt Facts.headers_ACMA x

theorem preflightWritten_key (h : HdrMap) (a c p m hh x : Option (List Bytes)) {k : Bytes}
    (hk : k ≠ Facts.headers_Vary) (hk' : k ≠ Facts.headers_ACMA) :
    preflightWritten h a c p m hh x k = (pipelineBuf a c p m hh k).or (h k) := by
  unfold preflightWritten
  rw [putOpt_other _ _ hk', copy_apply, preflightVary_other _ _ hk]

theorem preflightWritten_acao (h : HdrMap) (a c p m hh x : Option (List Bytes)) :
    preflightWritten h a c p m hh x Facts.headers_ACAO = a.or (h Facts.headers_ACAO) := by
  rw [preflightWritten_key _ _ _ _ _ _ _ acao_vary acao_acma, pipelineBuf_acao]

theorem preflightWritten_acac (h : HdrMap) (a c p m hh x : Option (List Bytes)) :
    preflightWritten h a c p m hh x Facts.headers_ACAC = c.or (h Facts.headers_ACAC) := by
  rw [preflightWritten_key _ _ _ _ _ _ _ acac_vary acac_acma, pipelineBuf_acac]

theorem preflightWritten_acah (h : HdrMap) (a c p m hh x : Option (List Bytes)) :
    preflightWritten h a c p m hh x Facts.headers_ACAH = hh.or (h Facts.headers_ACAH) := by
  rw [preflightWritten_key _ _ _ _ _ _ _ acah_vary acah_acma, pipelineBuf_acah]

theorem preflightWritten_acma (h : HdrMap) (a c p m hh x : Option (List Bytes)) :
    preflightWritten h a c p m hh x Facts.headers_ACMA = x.or (h Facts.headers_ACMA) := by
  unfold preflightWritten
  rw [putOpt_same, copy_apply, pipelineBuf_other _ _ _ _ _ (by simp [isPipelineKey]), preflightVary_other _ _ acma_vary]
  rfl

theorem preflightWritten_other (h : HdrMap) (a c p m hh x : Option (List Bytes)) {k : Bytes}
    (hk : ¬ isPipelineKey k) (hk' : k ≠ Facts.headers_ACMA) : preflightWritten h a c p m hh x k = preflightVary h k := by
  unfold preflightWritten
  rw [putOpt_other _ _ hk', copy_apply, pipelineBuf_other _ _ _ _ _ hk]
  rfl

theorem preflightWritten_congr_acah (h : HdrMap) (a c p m hh hh' x : Option (List Bytes)) {k : Bytes}
    (hk : k ≠ Facts.headers_ACAH) : preflightWritten h a c p m hh x k = preflightWritten h a c p m hh' x k := by
  have hb : ∀ {k : Bytes}, k ≠ Facts.headers_ACAH → pipelineBuf a c p m hh k = pipelineBuf a c p m hh' k := by
    intro k hk
    unfold pipelineBuf
    rw [putOpt_other _ _ hk, putOpt_other _ _ hk]
  unfold preflightWritten
  by_cases hx : k = Facts.headers_ACMA
  · rw [hx, putOpt_same, putOpt_same, copy_apply, copy_apply, hb acma_acah]
  · rw [putOpt_other _ _ hx, putOpt_other _ _ hx, copy_apply, copy_apply, hb hk]

theorem preflightWritten_none (h : HdrMap) : preflightWritten h none none none none none none = preflightVary h := rfl

/-- Away from Vary, a header of a preflight response is the old one or one of the six decided values. -/
theorem preflightWritten_entry {P : List Bytes → Prop} (h : HdrMap) {a c p m hh x : Option (List Bytes)} {k : Bytes}
    (hk : k ≠ Facts.headers_Vary) (ha : ∀ w, a = some w → P w) (hc : ∀ w, c = some w → P w) (hp : ∀ w, p = some w → P w)
    (hm : ∀ w, m = some w → P w) (hhh : ∀ w, hh = some w → P w) (hx : ∀ w, x = some w → P w) :
    preflightWritten h a c p m hh x k = h k ∨ ∃ w, P w ∧ preflightWritten h a c p m hh x k = some w := by
  have key : ∀ {v : Option (List Bytes)}, (∀ w, v = some w → P w) → v.or (h k) = h k ∨ ∃ w, P w ∧ v.or (h k) = some w := by
    intro v hv
    cases v with
    | none => exact Or.inl rfl
    | some w => exact Or.inr ⟨w, hv w rfl, rfl⟩
  by_cases hx' : k = Facts.headers_ACMA
  · rw [hx', preflightWritten_acma]
    exact hx' ▸ key hx
  by_cases hpk : isPipelineKey k
  · rw [preflightWritten_key _ _ _ _ _ _ _ hk hx']
    rcases hpk with rfl | rfl | rfl | rfl | rfl
    · rw [pipelineBuf_acao]; exact key ha
    · rw [pipelineBuf_acac]; exact key hc
    · rw [pipelineBuf_acapn]; exact key hp
    · rw [pipelineBuf_acam]; exact key hm
    · rw [pipelineBuf_acah]; exact key hhh
  · exact Or.inl ((preflightWritten_other _ _ _ _ _ _ _ hpk hx').trans (preflightVary_other _ _ hk))

theorem some_of_ite {α : Type} {g : Bool} {v : Option α} {w : α} (e : (if g then v else none) = some w) : v = some w :=
  (Option.ite_none_right_eq_some.mp e).2

end Pipeline

open Pipeline

-- An optional write of `none` reduces to the buffer itself, so after the case split each leaf holds by unfolding.

theorem processOriginForPreflight_closed (dec : Dec) (icfg : ICfg) (b : Buf) (o : Bytes) :
    processOriginForPreflight dec icfg b o =
      if originCond dec icfg o then
        some ((b.putOpt Facts.headers_ACAO (expACAO icfg o)).putOpt Facts.headers_ACAC (expACAC icfg))
      else none := by
  unfold processOriginForPreflight originCond expACAO expACAC
  cases dec.parses o <;> cases icfg.credentialed <;> cases icfg.tree.isEmpty <;> cases dec.allowed o <;> rfl

theorem processACRPN_closed (icfg : ICfg) (b : Buf) (reqHdrs : HdrMap) :
    processACRPN icfg b reqHdrs =
      if pnaCond icfg reqHdrs then some (b.putOpt Facts.headers_ACAPN (expACAPN reqHdrs)) else none := by
  unfold processACRPN pnaCond expACAPN
  cases reqHdrs.first Facts.headers_ACRPN with
  | none => rfl
  | some v =>
    show (if (!(v == Facts.headers_ValueTrue)) = true then _ else _) =
      if (!(v == Facts.headers_ValueTrue) || icfg.pna || icfg.pnaNoCors) = true then
        some (b.putOpt Facts.headers_ACAPN (if (v == Facts.headers_ValueTrue) = true then _ else _)) else none
    cases (v == Facts.headers_ValueTrue) <;> cases icfg.pna <;> cases icfg.pnaNoCors <;> rfl

theorem processACRM_closed (icfg : ICfg) (b : Buf) (m : Bytes) :
    processACRM icfg b m = if methodCond icfg m then some (b.putOpt Facts.headers_ACAM (expACAM icfg m)) else none := by
  unfold processACRM methodCond expACAM
  cases Methods.isSafelisted m <;> cases icfg.allowAnyMethod <;> cases icfg.credentialed <;>
    cases icfg.allowedMethods.contains m <;> rfl

theorem processACRH_closed (dec : Dec) (icfg : ICfg) (b : Buf) (reqHdrs : HdrMap) (dbg : Bool) :
    processACRH dec icfg b reqHdrs dbg =
      if headerCondD dec icfg reqHdrs dbg then some (b.putOpt Facts.headers_ACAH (expACAH icfg dbg reqHdrs))
      else none := by
  unfold processACRH headerCondD expACAH
  cases reqHdrs Facts.headers_ACRH with
  | none => rfl
  | some lines =>
    have : (icfg.allowedReqHdrs.size != 0) = !(icfg.allowedReqHdrs.size == 0) := rfl
    simp only [this]
    cases icfg.asteriskReqHdrs with
    | true => cases icfg.credentialed <;> cases icfg.allowAuthorization <;> rfl
    | false =>
      cases dbg with
      | true => cases icfg.acah.isEmpty <;> rfl
      | false => cases (icfg.allowedReqHdrs.size == 0) <;> cases dec.acrhOK lines <;> rfl

/-- **The pipeline in closed form**: the first condition that fails stops it, with the values decided so far in the
buffer. -/
theorem preflightSteps_closed (dec : Dec) (icfg : ICfg) (reqHdrs : HdrMap) (o m : Bytes) (dbg : Bool) :
    preflightSteps dec icfg reqHdrs o m dbg =
      if originCond dec icfg o = false then .originFail HdrMap.empty
      else if pnaCond icfg reqHdrs = false then .laterFail (pipelineBuf (expACAO icfg o) (expACAC icfg) none none none)
      else if methodCond icfg m = false then
        .laterFail (pipelineBuf (expACAO icfg o) (expACAC icfg) (expACAPN reqHdrs) none none)
      else if headerCondD dec icfg reqHdrs dbg = false then
        .laterFail (pipelineBuf (expACAO icfg o) (expACAC icfg) (expACAPN reqHdrs) (expACAM icfg m) none)
      else
        .ok (pipelineBuf (expACAO icfg o) (expACAC icfg) (expACAPN reqHdrs) (expACAM icfg m) (expACAH icfg dbg reqHdrs)) := by
  simp only [preflightSteps, processOriginForPreflight_closed, processACRPN_closed, processACRM_closed, processACRH_closed]
  cases originCond dec icfg o <;> cases pnaCond icfg reqHdrs <;> cases methodCond icfg m <;>
    cases headerCondD dec icfg reqHdrs dbg <;> rfl

theorem steps_ok_iffD (dec : Dec) (icfg : ICfg) (reqHdrs : HdrMap) (o m : Bytes) (dbg : Bool) :
    (∃ b, preflightSteps dec icfg reqHdrs o m dbg = .ok b) ↔
      (originCond dec icfg o && pnaCond icfg reqHdrs && methodCond icfg m && headerCondD dec icfg reqHdrs dbg) = true := by
  rw [preflightSteps_closed]
  cases originCond dec icfg o <;> cases pnaCond icfg reqHdrs <;> cases methodCond icfg m <;>
    cases headerCondD dec icfg reqHdrs dbg <;> simp

/-- The pipeline succeeds (debug off) exactly under the four conditions. -/
theorem steps_ok_iff (dec : Dec) (icfg : ICfg) (reqHdrs : HdrMap) (o m : Bytes) :
    (∃ b, preflightSteps dec icfg reqHdrs o m false = .ok b) ↔
      (originCond dec icfg o && pnaCond icfg reqHdrs && methodCond icfg m && headerCond dec icfg reqHdrs) = true := by
  rw [steps_ok_iffD, headerCondD_false]

/-- **The response to a preflight in closed form.**  A step's value is written iff the steps up to it succeeded and the
buffer is copied, which happens on success and, in debug mode, on every failure; Max-Age on success only; the success
status on success and, in debug mode, on a failure after the origin step. -/
theorem handleCORSPreflight_closed (dec : Dec) (icfg : ICfg) (h reqHdrs : HdrMap) (o m : Bytes) (dbg : Bool) :
    handleCORSPreflight dec icfg h reqHdrs o m dbg =
      let cO := originCond dec icfg o
      let cP := cO && pnaCond icfg reqHdrs
      let cM := cP && methodCond icfg m
      let cH := cM && headerCondD dec icfg reqHdrs dbg
      { hdrs := preflightWritten h (if (dbg || cH) && cO then expACAO icfg o else none)
          (if (dbg || cH) && cO then expACAC icfg else none) (if (dbg || cH) && cP then expACAPN reqHdrs else none)
          (if (dbg || cH) && cM then expACAM icfg m else none) (if cH then expACAH icfg dbg reqHdrs else none)
          (if cH && !icfg.acma.isEmpty then some icfg.acma else none),
        status := some (if cH || (dbg && cO) then okStatus icfg else forbidden),
        next := false } := by
  unfold handleCORSPreflight
  rw [preflightSteps_closed]
  generalize originCond dec icfg o = cO
  generalize pnaCond icfg reqHdrs = cP
  generalize methodCond icfg m = cM
  generalize headerCondD dec icfg reqHdrs dbg = cH
  generalize icfg.acma.isEmpty = x
  cases cO <;> cases cP <;> cases cM <;> cases cH <;> cases dbg <;> cases x <;> rfl

theorem handleCORSPreflight_other (dec : Dec) (icfg : ICfg) (h reqHdrs : HdrMap) (o m : Bytes) (dbg : Bool) {k : Bytes}
    (hk : ¬ isPipelineKey k) (hk' : k ≠ Facts.headers_ACMA) :
    (handleCORSPreflight dec icfg h reqHdrs o m dbg).hdrs k = preflightVary h k := by
  rw [handleCORSPreflight_closed]
  exact preflightWritten_other _ _ _ _ _ _ _ hk hk'

theorem preflight_ok_iff (dec : Dec) (icfg : ICfg) (hwf : icfg.WF) (h reqHdrs : HdrMap) (o m : Bytes) :
    (handleCORSPreflight dec icfg h reqHdrs o m false).status = some (okStatus icfg) ↔
      (originCond dec icfg o && pnaCond icfg reqHdrs && methodCond icfg m && headerCond dec icfg reqHdrs) = true := by
  have hd : some forbidden ≠ some (okStatus icfg) := fun e => okStatus_ne_forbidden icfg hwf (Option.some.inj e).symm
  rw [← headerCondD_false]
  simp only [handleCORSPreflight_closed, Bool.false_and, Bool.or_false]
  cases originCond dec icfg o && pnaCond icfg reqHdrs && methodCond icfg m && headerCondD dec icfg reqHdrs false
  · exact ⟨fun e => absurd e hd, fun e => nomatch e⟩
  · exact ⟨fun _ => rfl, fun _ => rfl⟩

theorem expACAO_decision {dec : Dec} {icfg : ICfg} {r : Req} {o : Bytes} (ho : r.hdrs.first Facts.headers_Origin = some o)
    (hc : originCond dec icfg o = true) : OriginDecision dec icfg r (expACAO icfg o) (expACAC icfg) := by
  unfold originCond at hc
  unfold expACAO expACAC
  cases hw : (!icfg.credentialed && icfg.tree.isEmpty)
  · simp only [hw, Bool.false_or, Bool.and_eq_true] at hc
    exact .echo o ho hc.2
  · simp only [Bool.and_eq_true, Bool.not_eq_true'] at hw
    exact .star hw.2 hw.1

end Cors
