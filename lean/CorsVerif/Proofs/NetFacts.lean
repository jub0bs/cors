import CorsVerif.Model.Net
/-
  Facts about the model of `net/netip` that the tree and round-trip theorems need from the IPv6 oracle: the two
  equations of `ip6` (without and with a zone), and that it accepts no text starting with `*`.
-/
namespace Cors
namespace Net

theorem fields_star (t : Bytes) : fields (42 :: t) = none := by
  have : loop 9 [] none (42 :: t) = none := by
    simp [loop, show isHex 42 = false by decide]
  simp [fields, this]

/-- What `ip6` answers for the fields `gs` read before the zone `z`, if there is one. -/
def infoOf (gs : List Nat) (z : Option Bytes) : IP6Info :=
  let text := if is4in6 gs then render4in6 gs else render6 gs
  { canon := match z with | none => text | some z => text ++ [37] ++ z
    zone := z.isSome, is4in6 := is4in6 gs
    loopback := if is4in6 gs then gs.getD 6 0 / 256 == 127 else gs == [0, 0, 0, 0, 0, 0, 0, 1] }

theorem ip6_no_zone {host : Bytes} (h : Bytes.cutAt 37 host = none) :
    ip6 host = (fields host).map (infoOf · none) := by
  unfold ip6
  rw [h]
  dsimp only
  cases fields host <;> rfl

theorem ip6_zone {host before after : Bytes} (h : Bytes.cutAt 37 host = some (before, after)) :
    ip6 host = if after = [] then none else (fields before).map (infoOf · (some after)) := by
  unfold ip6
  rw [h]
  dsimp only
  cases after <;> cases fields before <;> rfl

/-- The hypothesis `hext` of the tree theorems, for the modelled library. -/
theorem ip6_no_star (h : Bytes) (info : IP6Info) (hi : ip6 h = some info) : h.head? ≠ some 42 := by
  intro hh
  obtain ⟨t, rfl⟩ := List.head?_eq_some_iff.mp hh
  cases hc : Bytes.cutAt 37 (42 :: t) with
  | none =>
    rw [ip6_no_zone hc, fields_star] at hi
    cases hi
  | some r =>
    obtain ⟨before, after⟩ := r
    -- the part before a `%` still starts with `*`
    obtain ⟨t', rfl⟩ : ∃ t', before = 42 :: t' := by
      rw [Bytes.cutAt, if_neg (by decide)] at hc
      split at hc <;> cases hc
      exact ⟨_, rfl⟩
    rw [ip6_zone hc, fields_star] at hi
    split at hi <;> cases hi

end Net
end Cors
