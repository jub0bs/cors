import CorsVerif.Proofs.StoreExact
import CorsVerif.Proofs.Stable
/-
  One insertion, then trees built from patterns.
  `insert_spec` (with `insertKids_spec`, and `addPort_cover` for one node's table) is the per-insertion statement:
  `Tree.Insert` adds exactly the coverage of the inserted entry to what `Tree.Contains` accepts, for every tree
  satisfying the invariant, every key with a port 0 … 65536 and every query with a port up to 65535.  It is read
  off `den_spec`, `insert_exact` and `absInsert_any_ecov`; the property theorems do not go through it but through
  `fold_run`.
  Patterns: what a parsed pattern satisfies (`Pattern.WF`), under which key `Tree.Insert` stores one (`treeKey`,
  `entryOf`), what a tree built from a list of patterns stores (`fold_run`: what `run` computes on their entries)
  and hence accepts (`fold_insert`).
-/
namespace Cors
namespace Node

/-- The statement of `insert_spec`.  The bounds: `p` is a pattern's port (`wildcardPort` = 65536 for any port),
`p'` an origin's. -/
def InsertSpec (n : Node) : Prop :=
  Inv n → ∀ (s sch : Bytes) (p : Int) (w : Bool), 0 ≤ p ∧ p ≤ 65536 →
    Inv (insert n s sch p w) ∧ (insert n s sch p w).suf = n.suf ∧
    ∀ (h sch' : Bytes) (p' : Int), 0 ≤ p' ∧ p' ≤ 65535 →
      contains (insert n s sch p w) h sch' p' = (contains n h sch' p' || entryCovers s sch p w h sch' p')

def InsertKidsSpec (K : List (Nat × Node)) : Prop :=
  KidsInv K → ∀ (label : Nat) (srest sch : Bytes) (p : Int) (w : Bool), 0 ≤ p ∧ p ≤ 65536 →
    KidsInv (insertKids K label (label :: srest) sch p w) ∧
    (∀ m, (∀ e ∈ K, m < e.1) → m < label → ∀ e ∈ insertKids K label (label :: srest) sch p w, m < e.1) ∧
    ∀ (l' : Nat) (hrest sch' : Bytes) (p' : Int), 0 ≤ p' ∧ p' ≤ 65535 →
      containsKids (insertKids K label (label :: srest) sch p w) l' (l' :: hrest) sch' p' =
        (containsKids K l' (l' :: hrest) sch' p' || entryCovers (label :: srest) sch p w (l' :: hrest) sch' p')

theorem insert_spec : (n : Node) → InsertSpec n := by
  intro n hn s sch p w hp
  have hn' := insert_inv n hn s sch p w hp
  refine ⟨hn', insert_suf n s sch p w, fun h sch' p' hp' => ?_⟩
  rw [den_spec _ hn' h sch' p' hp', (insert_exact n hn s sch p w hp).any_eq,
    absInsert_any_ecov _ _ (code_range p w hp).2, ← den_spec n hn h sch' p' hp', ecov_code _ _ _ hp]

theorem insertKids_spec : (K : List (Nat × Node)) → InsertKidsSpec K := by
  intro K hK label srest sch p w hp
  have hK' := insertKids_inv K hK label srest sch p w hp
  refine ⟨hK', fun m hm hml e he => ?_, fun l' hrest sch' p' hp' => ?_⟩
  · rcases insertKids_labels K label _ sch p w e he with h | ⟨e', he', h⟩
    · rw [h]; exact hml
    · rw [h]; exact hm e' he'
  · have h1 := den_kids_spec _ hK' (l' :: hrest) sch' p' hp'
    have h2 := den_kids_spec K hK (l' :: hrest) sch' p' hp'
    simp only [kidsLookup] at h1 h2
    rw [h1, (exact_kids_spec K hK label srest sch p w hp).any_eq,
      absInsert_any_ecov _ _ (code_range p w hp).2, ← h2, ecov_code _ _ _ hp]

/-- `node.add` extends what the table covers by exactly the new entry's coverage, its duplicate test
(`contains` called with the already offset port) notwithstanding. -/
theorem addPort_cover (S : List (Bytes × List Int)) (hS : SchemesOK S) (sch : Bytes) (p : Int) (w : Bool)
    (hp : 0 ≤ p ∧ p ≤ 65536) (sch' : Bytes) (p' : Int) (w' : Bool) (hp' : 0 ≤ p' ∧ p' ≤ 65535) :
    containsPort (addPort S sch p w) sch' p' w' =
      (containsPort S sch' p' w' || (sch == sch' && (w == w' && (p == p' || p == 65536)))) := by
  -- a host rest that is empty exactly for an exact-host query
  obtain ⟨h, rfl⟩ : ∃ h : Bytes, w' = !h.isEmpty := by
    cases w'
    · exact ⟨[], rfl⟩
    · exact ⟨[0], rfl⟩
  have := (own_exact S hS sch p w hp).any_eq (f := (ecov · h sch' p'))
  rw [absInsert_any_ecov _ _ (code_range p w hp).2, ecov_code _ _ _ hp, entryCovers_nil_key] at this
  rw [← own_cover _ (addPort_ok S hS sch p w hp) h sch' p' hp', ← own_cover S hS h sch' p' hp']
  exact this

end Node

open Node

/-- What `ParsePattern` guarantees (`C01_parsed`).  The insertion theorems need the port bound only (at most
`wildcardPort`); that the first byte of the host value is `*` exactly for subdomain patterns (whose value is
`*.`+base) is what makes the coverage of the stored key the pattern's denotation (`treeCovers_eq_denotes`) and
its rendering the pattern's text (`renderOf_eq`). -/
structure Pattern.WF (p : Pattern) : Prop where
  port : p.port ≤ 65536
  wild : p.kind = .subdomains → ∃ base, p.value = 42 :: 46 :: base
  plain : p.kind ≠ .subdomains → p.value.head? ≠ some 42

/-- The key and flag under which `Tree.Insert` stores a pattern (reversed view). -/
def treeKey (p : Pattern) : Bytes × Bool :=
  match p.value with
  | 42 :: s => (s.reverse, true)
  | s => (s.reverse, false)

def entryOf (p : Pattern) : Entry := ((treeKey p).1, p.scheme, Node.code p.port (treeKey p).2)

theorem treeKey_wild {p : Pattern} {s : Bytes} (h : p.value = 42 :: s) : treeKey p = (s.reverse, true) := by
  unfold treeKey; rw [h]; rfl

theorem treeKey_plain {p : Pattern} (h : p.value.head? ≠ some 42) : treeKey p = (p.value.reverse, false) := by
  unfold treeKey
  split
  · rename_i s hs
    rw [hs] at h
    exact absurd rfl h
  · rfl

theorem tree_insert_eq (t : Tree) (p : Pattern) :
    Tree.insert t p = Node.insert t (treeKey p).1 p.scheme p.port (treeKey p).2 := by
  unfold Tree.insert
  split
  · rename_i s hs
    rw [treeKey_wild hs]
  · rename_i hs
    rw [treeKey_plain fun h => ?_]
    obtain ⟨s, hv⟩ := List.head?_eq_some_iff.mp h
    exact hs s hv

def treeCovers (p : Pattern) (o : Origin) : Bool :=
  entryCovers (treeKey p).1 p.scheme p.port (treeKey p).2 o.host.value.reverse o.scheme o.port

theorem contains_empty (h sch : Bytes) (p : Int) : Node.contains Node.empty h sch p = false := by
  rw [Node.empty, contains_mk, kidsLookup_nil]
  rfl

theorem treeCovers_eq_ecov {p : Pattern} (hp : p.port ≤ 65536) (o : Origin) :
    treeCovers p o = ecov (entryOf p) o.host.value.reverse o.scheme o.port :=
  (ecov_code _ _ _ ⟨by omega, by omega⟩ _ _ _).symm

theorem fold_run (ps : List Pattern) (hwf : ∀ p ∈ ps, p.port ≤ 65536) (t : Tree) (ht : Node.Inv t) :
    Node.Inv (ps.foldl Tree.insert t) ∧ (entries (ps.foldl Tree.insert t)).Perm (run (entries t) (ps.map entryOf)) := by
  induction ps generalizing t with
  | nil => exact ⟨ht, .refl _⟩
  | cons p ps ih =>
    have hp : p.port ≤ 65536 := hwf p List.mem_cons_self
    have hpr : (0 : Int) ≤ (p.port : Int) ∧ (p.port : Int) ≤ 65536 := ⟨by omega, by omega⟩
    obtain ⟨h1, h2⟩ := ih (fun q hq => hwf q (List.mem_cons_of_mem _ hq)) _ (insert_inv t ht (treeKey p).1 p.scheme p.port (treeKey p).2 hpr)
    rw [List.foldl_cons, tree_insert_eq]
    exact ⟨h1, h2.trans (run_perm _ (insert_exact t ht _ _ _ _ hpr))⟩

theorem fold_inv (ps : List Pattern) (hwf : ∀ p ∈ ps, p.port ≤ 65536) (t : Tree) (ht : Node.Inv t) :
    Node.Inv (ps.foldl Tree.insert t) :=
  (fold_run ps hwf t ht).1

theorem fold_insert (ps : List Pattern) (hwf : ∀ p ∈ ps, p.port ≤ 65536) (t : Tree) (ht : Node.Inv t)
    (o : Origin) (ho : o.port ≤ 65535) :
    Tree.contains (ps.foldl Tree.insert t) o = (Tree.contains t o || ps.any (fun p => treeCovers p o)) := by
  obtain ⟨hinv, hperm⟩ := fold_run ps hwf t ht
  have ho' : (0 : Int) ≤ (o.port : Int) ∧ (o.port : Int) ≤ 65535 := ⟨by omega, by omega⟩
  unfold Tree.contains
  rw [den_spec _ hinv _ _ _ ho', hperm.any_eq, run_any_ecov, ← den_spec t ht _ _ _ ho', List.any_map]
  · congr 1
    exact any_congr ps _ _ fun p hp => (treeCovers_eq_ecov (hwf p hp) o).symm
  · intro e he
    obtain ⟨p, hp, rfl⟩ := List.mem_map.mp he
    exact (code_range _ _ ⟨by omega, by have := hwf p hp; omega⟩).2

theorem fold_insert_members {ps qs : List Pattern} (hps : ∀ p ∈ ps, p.port ≤ 65536) (hsame : ∀ p, p ∈ ps ↔ p ∈ qs)
    (t : Tree) (ht : Node.Inv t) (o : Origin) (ho : o.port ≤ 65535) :
    Tree.contains (ps.foldl Tree.insert t) o = Tree.contains (qs.foldl Tree.insert t) o := by
  rw [fold_insert ps hps t ht o ho, fold_insert qs (fun p hp => hps p ((hsame p).mpr hp)) t ht o ho]
  simp only [List.any_eq, hsame]

end Cors
