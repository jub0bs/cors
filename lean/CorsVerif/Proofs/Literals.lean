import CorsVerif.Spec.Fetch
/-
  `Spec.b` on string literals without running `String.toList`.

  The kernel reads a literal `"abc"` as `String.ofList ['a', 'b', 'c']`, so unification alone yields its characters,
  and `Spec.b` of it is their codes by `String.toList_ofList`.  Evaluating `Spec.b "abc"` instead makes the kernel
  encode the literal to UTF-8 and decode it again through `Array.push`, quadratic in the length of the string.
-/
namespace Cors.Spec

theorem b_ofList (cs : List Char) : b (String.ofList cs) = cs.map Char.toNat := by
  rw [b, String.toList_ofList]

/-- `Spelt css bs`: the byte strings `bs` are `Spec.b` of the strings with the characters `css`.  For a list of
`Spec.b "…"` the derivation is found by `repeat constructor`, which unifies each literal with its characters. -/
inductive Spelt : List (List Char) → List Bytes → Prop
  | nil : Spelt [] []
  | cons {cs css bs} : Spelt css bs → Spelt (cs :: css) (b (String.ofList cs) :: bs)

theorem Spelt.eq {css bs} (h : Spelt css bs) : bs = css.map (·.map Char.toNat) := by
  induction h with
  | nil => rfl
  | cons _ ih => rw [List.map_cons, b_ofList, ih]

/-- A table of byte strings is a table of `Spec.b "…"` when its entries are the character codes: the second
hypothesis is closed by evaluation, which meets no string.  It is the Boolean comparison because that is
quicker to evaluate than the decision procedure of the equation, which carries proofs along. -/
theorem Spelt.eq_of {css bs} {l : List Bytes} (h : Spelt css bs) (hl : (l == css.map (·.map Char.toNat)) = true) : l = bs :=
  (eq_of_beq hl).trans h.eq.symm

end Cors.Spec
