import CorsVerif.Gen.Pipeline
import CorsVerif.Proofs.Serve
/-
  The functions of Gen/Pipeline.lean (regenerated from the Go source on every run by harness/extract/translate.go) are
  the hand-written model's: from middleware.go the four steps of the preflight pipeline, the three handlers, the closure
  of `Wrap` and the two state writers (Model/Serve.lean); from config.go the two integer validators, the loop bodies of
  the four list validators and the order in which `newInternalConfig` accumulates errors (Model/Config.lean).

  A rewrite of the Go source that keeps the meaning must re-prove without touching this file, so the proofs about the
  steps, the two non-preflight handlers, the closure, the state writers and the loop bodies depend on the *atoms* of the
  two functions only, never on the order or nesting of the tests.  The translated function is unfolded together with the
  translator's vocabulary (`GoRt.first`, `GoRt.lookup`, `GoRt.result` and the like: plain definitions without lemmas,
  unfolded nowhere else), the model's is unfolded by `simp only`, which also removes the local definitions (an atom may
  hide behind a Go variable) and rewrites the model's oracle projections into the translator's vocabulary.  The data
  atoms (look-ups, parse results) are split first, and a data branch in which the function returns without a further
  test (the header is absent, the pattern does not parse) is closed there: this much does rely on that look-up coming
  first in the Go function.  A comparison is split through `cmp_atom`, so that its spelling does not matter.  Then EVERY
  Boolean atom is split up front, whether or not the branch at hand looks at it, and each leaf is closed by evaluation —
  every test of either side is decided there, whatever the shape of the two programs.  (`b && false` with `b` a variable
  does not evaluate: pruning the split along one version of the program is what must not be done here.)  In the closure
  of `Wrap` the atoms are the method test and the two look-ups, and a leaf is closed by rewriting with them and with the
  equations of the three handlers, which are calls, not tests.  In the large functions the atoms are first named by
  `generalize`, so that every `cases` splits a variable instead of abstracting a compound term in each of the 2^k goals,
  and the leaves are closed by `eq_refl`, the bare check of definitional equality (cheaper than `rfl` at each of the 2^k
  leaves).  Where a loop body appends an error under a condition (`resHdrStep_eq`, `originStep_eq`), the list so far is
  written `errs ++ []` and every `++` is nested to the right beforehand, so that both sides report `errs ++ t` with `t`
  a literal list at each leaf (`l ++ []` against `l` does not evaluate).  Not so `handleCORSPreflight_eq`, which follows
  the four step calls in their order (the translator keeps that order: the steps are calls, not tests), the integer
  validators, which follow the translated comparisons, and `newInternalConfigOrder_append`, which follows the translated
  `let`s.
-/
-- a `simp` set here also has to serve other, equivalent versions of the generated functions, where other members of it fire
set_option linter.unusedSimpArgs false

namespace Cors
namespace Translated
open Gen Serve

/-- A comparison is one atom however it is spelt: `x == c`, `c == x`, `x != c`, `c != x` are decided together. -/
theorem cmp_atom {α : Type} [BEq α] [LawfulBEq α] (x c : α) :
    ((x == c) = true ∧ (c == x) = true ∧ (x != c) = false ∧ (c != x) = false) ∨
    ((x == c) = false ∧ (c == x) = false ∧ (x != c) = true ∧ (c != x) = true) := by
  rw [bne, bne, BEq.comm (a := c)]
  cases (x == c)
  · exact Or.inr ⟨rfl, rfl, rfl, rfl⟩
  · exact Or.inl ⟨rfl, rfl, rfl, rfl⟩

/-- The model's own decisions in the translator's vocabulary. -/
theorem modelDec_parses (icfg : ICfg) (o : Bytes) : (modelDec icfg).parses o = (GoRt.parse o).2 := by
  show (Lex.parse o).isSome = _
  unfold GoRt.parse
  cases Lex.parse o <;> rfl

theorem modelDec_allowed (icfg : ICfg) (o : Bytes) :
    (modelDec icfg).allowed o = ((GoRt.parse o).2 && Tree.contains icfg.tree (GoRt.parse o).1) := by
  show (match Lex.parse o with | none => false | some o => Tree.contains icfg.tree o) = _
  unfold GoRt.parse
  cases Lex.parse o <;> rfl

theorem modelDec_acrhOK (icfg : ICfg) (l : List Bytes) : (modelDec icfg).acrhOK l = Headers.check icfg.allowedReqHdrs l := rfl

/-- The caller passes `headers.First`'s one-element slice. -/
theorem processACRM_eq (icfg : ICfg) (buf : Buf) (acrm : Bytes) :
    Gen.GoSrc.processACRM icfg buf acrm [acrm] = GoRt.result buf (Serve.processACRM icfg buf acrm) := by
  unfold Gen.GoSrc.processACRM
  simp only [Serve.processACRM, GoRt.result]
  cases Methods.isSafelisted acrm <;> cases icfg.allowAnyMethod <;> cases icfg.credentialed <;>
    cases icfg.allowedMethods.contains acrm <;> rfl

theorem processACRPN_eq (icfg : ICfg) (buf : Buf) (reqHdrs : HdrMap) :
    Gen.GoSrc.processACRPN icfg buf reqHdrs = GoRt.result buf (Serve.processACRPN icfg buf reqHdrs) := by
  unfold Gen.GoSrc.processACRPN GoRt.first
  simp only [Serve.processACRPN, HdrMap.first, GoRt.result]
  cases reqHdrs Facts.headers_ACRPN with
  | none => rfl
  | some v =>
    cases v with
    | nil => rfl
    | cons a rest =>
      dsimp only
      rcases cmp_atom a Facts.headers_ValueTrue with ⟨h1, h2, h3, h4⟩ | ⟨h1, h2, h3, h4⟩ <;>
        simp only [h1, h2, h3, h4] <;> cases icfg.pna <;> cases icfg.pnaNoCors <;> rfl

theorem processOriginForPreflight_eq (icfg : ICfg) (buf : Buf) (origin : Bytes) :
    Gen.GoSrc.processOriginForPreflight icfg buf origin [origin] =
      GoRt.result buf (Serve.processOriginForPreflight (modelDec icfg) icfg buf origin) := by
  unfold Gen.GoSrc.processOriginForPreflight
  simp only [Serve.processOriginForPreflight, GoRt.result, modelDec_parses, modelDec_allowed]
  cases (GoRt.parse origin).2 <;> cases icfg.credentialed <;> cases icfg.tree.isEmpty <;>
    cases Tree.contains icfg.tree (GoRt.parse origin).1 <;> rfl

theorem processACRH_eq (icfg : ICfg) (buf : Buf) (reqHdrs : HdrMap) (debug : Bool) :
    Gen.GoSrc.processACRH icfg buf reqHdrs debug = GoRt.result buf (Serve.processACRH (modelDec icfg) icfg buf reqHdrs debug) := by
  unfold Gen.GoSrc.processACRH GoRt.lookup
  simp only [Serve.processACRH, GoRt.result]
  cases reqHdrs Facts.headers_ACRH with
  | none => rfl
  | some acrh =>
    dsimp only
    -- `rw`, not `simp`: the lemma holds by unfolding, and `simp` would then leave the `Decidable` arguments of the `if`s alone
    rw [modelDec_acrhOK]
    generalize icfg.asteriskReqHdrs = b1
    generalize icfg.credentialed = b2
    generalize icfg.allowAuthorization = b3
    generalize Headers.check icfg.allowedReqHdrs acrh = b4
    generalize icfg.acah.isEmpty = b5
    rcases cmp_atom icfg.allowedReqHdrs.size 0 with ⟨h1, h2, h3, h4⟩ | ⟨h1, h2, h3, h4⟩ <;>
      simp only [h1, h2, h3, h4] <;> cases b1 <;> cases b2 <;> cases b3 <;> cases debug <;> cases b4 <;> cases b5 <;> eq_refl

theorem handleNonCORS_eq (icfg : ICfg) (h : HdrMap) (isOPTIONS : Bool) :
    Gen.GoSrc.handleNonCORS icfg h isOPTIONS = Serve.handleNonCORS icfg h isOPTIONS := by
  unfold Gen.GoSrc.handleNonCORS
  simp only [Serve.handleNonCORS]
  cases isOPTIONS <;> cases icfg.pnaNoCors <;> cases icfg.tree.isEmpty <;> cases icfg.aceh <;> rfl

theorem handleCORSActual_eq (icfg : ICfg) (h : HdrMap) (origin : Bytes) (isOPTIONS : Bool) :
    Gen.GoSrc.handleCORSActual icfg h origin [origin] isOPTIONS =
      (Serve.handleCORSActual (modelDec icfg) icfg h origin isOPTIONS, none) := by
  unfold Gen.GoSrc.handleCORSActual
  simp only [Serve.handleCORSActual, modelDec_allowed]
  generalize icfg.pnaNoCors = b1
  generalize icfg.tree.isEmpty = b2
  generalize icfg.credentialed = b3
  generalize (GoRt.parse origin).2 = b4
  generalize Tree.contains icfg.tree (GoRt.parse origin).1 = b5
  generalize icfg.aceh = e
  cases isOPTIONS <;> cases b1 <;> cases b2 <;> cases b3 <;> cases b4 <;> cases b5 <;> cases e <;> eq_refl

/-- `handleCORSPreflight` — the Vary step, the four steps in Fetch order, what is copied from the buffer and which status
is written when a step fails (both debug modes), the max-age header and the success status —, translated from /repo's
middleware.go on every run (calling the translated steps), produces the header map and the status of
the hand-written model.  It contains no call of the wrapped handler: outside the closure of `Wrap` the translator has no
construct for one. -/
theorem handleCORSPreflight_eq (icfg : ICfg) (h reqHdrs : HdrMap) (origin acrm : Bytes) (debug : Bool) :
    Gen.GoSrc.handleCORSPreflight icfg h reqHdrs origin [origin] acrm [acrm] debug =
      ((Serve.handleCORSPreflight (modelDec icfg) icfg h reqHdrs origin acrm debug).hdrs,
       (Serve.handleCORSPreflight (modelDec icfg) icfg h reqHdrs origin acrm debug).status) := by
  unfold Gen.GoSrc.handleCORSPreflight Serve.handleCORSPreflight Serve.preflightSteps Serve.preflightVary GoRt.lookup
  simp only [processOriginForPreflight_eq, processACRPN_eq, processACRM_eq, processACRH_eq, GoRt.result, forbidden_eq, okStatus]
  -- the code after the Vary step stands once in each of its branches: drop the branch not taken before going on;
  -- then step by step: a failing step ends the function, a successful one hands its buffer to the next
  cases h Facts.headers_Vary <;>
    simp only [Bool.not_true, Bool.not_false, Bool.false_eq_true, if_true, if_false] <;>
    cases Serve.processOriginForPreflight (modelDec icfg) icfg HdrMap.empty origin with
    | none => cases debug <;> rfl
    | some b1 =>
      dsimp only
      cases Serve.processACRPN icfg b1 reqHdrs with
      | none => cases debug <;> rfl
      | some b2 =>
        dsimp only
        cases Serve.processACRM icfg b2 acrm with
        | none => cases debug <;> rfl
        | some b3 =>
          dsimp only
          cases Serve.processACRH (modelDec icfg) icfg b3 reqHdrs debug with
          | none => cases debug <;> rfl
          | some b4 => cases icfg.acma.isEmpty <;> rfl

theorem resp_eta (x : Resp) (h : x.next = false) : ({ hdrs := x.hdrs, status := x.status, next := false } : Resp) = x := by
  cases x
  cases h
  rfl

/-- The handler closure returned by `Wrap` — from the statement after its passthrough test on: the dispatch on the first
`Origin` value, the method and the first `Access-Control-Request-Method` value, the calls of `handleNonCORS` /
`handleCORSPreflight` / `handleCORSActual` and of the wrapped handler — is translated from /repo's middleware.go on every
run, on top of the translated handlers and steps; as a function of (configuration, debug mode, request, response headers
already present) it *is* `Serve.serve`, the function every theorem about responses speaks about.  So the whole request
path of middleware.go below the snapshot under the read lock is regenerated from the source and proved equal to the
model; what stays hand-modelled there is `net/http.Header`, `maps.Copy`, `headers.First` and the functions the steps
call: `origins.Parse`, `Tree.Contains`, `headers.Check` (for these four the index level is C17's: `C17_ix_first`,
`C17_ix_parse`, `C17_ix_treeContains`, `C17_ix_check`), `methods.IsSafelisted` and `Set.Contains`. -/
theorem serveClosure_eq (icfg : ICfg) (debug : Bool) (r : Req) (pre : HdrMap) :
    Gen.GoSrc.serveClosure icfg debug r pre = Serve.serve icfg debug r pre := by
  unfold Gen.GoSrc.serveClosure Serve.serve Serve.serveDec GoRt.first HdrMap.first
  -- the atoms: the method test, the two look-ups (absent, no value, a first value)
  rcases cmp_atom r.method Serve.OPTIONS with ⟨h1, h2, h3, h4⟩ | ⟨h1, h2, h3, h4⟩ <;>
    rcases r.hdrs Facts.headers_Origin with _ | _ | ⟨origin, _⟩ <;>
    rcases r.hdrs Facts.headers_ACRM with _ | _ | ⟨acrm, _⟩ <;>
    simp only [h1, h2, h3, h4, Bool.not_true, Bool.not_false, Bool.and_true, Bool.true_and, Bool.and_false, Bool.false_and,
      Bool.false_eq_true, ↓reduceIte, handleNonCORS_eq, handleCORSActual_eq, handleCORSPreflight_eq, handleCORSPreflight_next,
      resp_eta]

/-- `(*Middleware).Reconfigure` and `(*Middleware).SetDebug` — beside the constructor the only writers of the
configuration pointer and of the debug flag (`C07_only_these`) — are translated from /repo's middleware.go on every run
(lock calls skipped: the lock programs are C07's facts) and, as functions on the model's state, are `Mw.reconfigure` and
`Mw.setDebug`, the transitions every theorem about histories speaks about: the error is returned before anything is
written, the pointer is replaced, `debug = cfg != nil && debug`, `debug = b && icfg != nil`. -/
theorem reconfigure_eq (ext : Ext) (m : Mw) (cfg : Option Config) :
    Gen.GoSrc.reconfigure ext m cfg = Mw.reconfigure ext m cfg := by
  unfold Gen.GoSrc.reconfigure GoRt.newInternalConfig
  simp only [Mw.reconfigure]
  cases m with
  | mk icfg debug =>
    cases debug <;> cases cfg with
    | none => rfl
    | some c =>
      simp only []
      cases newInternalConfig ext c <;> rfl

theorem setDebug_eq (m : Mw) (b : Bool) : Gen.GoSrc.setDebug m b = Mw.setDebug m b := by
  unfold Gen.GoSrc.setDebug Mw.setDebug
  cases m with
  | mk icfg debug => cases icfg <;> cases b <;> rfl

/-- The whole closure returned by `Wrap`, read on the model's state — the snapshot of (configuration pointer, debug flag)
under the read lock, the passthrough branch (`h.ServeHTTP(w, r); return`), then the dispatch —, translated from /repo's
middleware.go on every run, is `Mw.serve`: a passthrough middleware is the identity that
calls the wrapped handler, a configured one answers with `Serve.serve icfg debug`.  (That the two fields are read in one
critical section is `C07_wrap_snapshot`; the translator checks that the prologue consists of exactly those statements.) -/
theorem serveMw_eq (m : Mw) (r : Req) (pre : HdrMap) : Gen.GoSrc.serveMw m r pre = Mw.serve m r pre := by
  unfold Gen.GoSrc.serveMw Mw.serve
  cases m.icfg with
  | none => rfl
  | some icfg => exact serveClosure_eq icfg m.debug r pre

/-- `validatePreflightStatus` and `validateMaxAge` — the two loop-free validators, where the integer subtleties live
(range test before the `uint8` conversion, `-1` / `0` / default handling) — are translated from
/repo's config.go on every run (constants evaluated by go/types) and equal the hand-written `Validate.status` /
`Validate.maxAge` for every integer: same acceptance, same error value with its bounds, same stored value. -/
theorem validatePreflightStatus_eq (s : Int) :
    Gen.GoSrc.validatePreflightStatus s =
      (match Validate.status s with | .ok v => (none, v) | .error e => (some e, 0)) := by
  unfold Gen.GoSrc.validatePreflightStatus Validate.status GoRt.uint8 GoRt.nat
  -- the model's bounds are regenerated constants, the code's are literals
  have e1 : ((Facts.cors_validatePreflightStatus_lowerBound : Nat) : Int) = 200 := rfl
  have e2 : ((Facts.cors_validatePreflightStatus_upperBound : Nat) : Int) = 299 := rfl
  rw [e1, e2]
  rcases cmp_atom s 0 with ⟨h1, h2, h3, h4⟩ | ⟨h1, h2, h3, h4⟩ <;> simp only [h1, h2, h3, h4]
  · rfl
  · cases hl : decide ((200 : Int) ≤ s)
    · rfl
    cases hu : decide (s ≤ (299 : Int))
    · rfl
    -- in range: `uint8(status - 200)` against the model's `(s - 200).toNat % 256`; the difference is not negative
    have := of_decide_eq_true hl
    show (none, ((s - 200) % 256).toNat) = (none, (s - 200).toNat % 256)
    rw [Int.toNat_emod (by omega) (by decide)]
    rfl

theorem validateMaxAge_eq (d : Int) :
    Gen.GoSrc.validateMaxAge d =
      (match Validate.maxAge d with | .ok v => (none, v) | .error e => (some e, [])) := by
  unfold Gen.GoSrc.validateMaxAge Validate.maxAge GoRt.nat GoRt.itoa
  have e1 : ((Facts.cors_validateMaxAge_upperBound : Nat) : Int) = 86400 := rfl
  have e2 : Facts.cors_validateMaxAge_disableCaching = -1 := rfl
  rw [e1, e2]
  cases hl : decide (d < (-1 : Int)) with
  | true => rfl
  | false =>
  cases hu : decide ((86400 : Int) < d) with
  | true => rfl
  | false =>
  rcases cmp_atom d (-1) with ⟨h1, h2, h3, h4⟩ | ⟨h1, h2, h3, h4⟩ <;> simp only [h1, h2, h3, h4]
  · rfl
  rcases cmp_atom d 0 with ⟨k1, k2, k3, k4⟩ | ⟨k1, k2, k3, k4⟩ <;> simp only [k1, k2, k3, k4]
  · rfl
  -- within the bounds, neither `-1` nor `0`: `strconv.Itoa` has a branch for the sign, the model has none
  have := of_decide_eq_false hl
  have := ne_of_beq_false h1
  have hpos : ¬ d < 0 := by omega
  show (none, [if d < 0 then _ else _]) = (none, [Bytes.itoa d.toNat])
  rw [if_neg hpos]

theorem methodStep_eq (st : Validate.MState) (name : Bytes) : Gen.GoSrc.methodStep st name = Validate.methodStep st name := by
  unfold Gen.GoSrc.methodStep
  rcases cmp_atom name Facts.headers_ValueWildcard with ⟨h1, h2, h3, h4⟩ | ⟨h1, h2, h3, h4⟩ <;>
    simp only [Validate.methodStep, Validate.star, h1, h2, h3, h4] <;> cases Methods.isValid name <;>
    cases Methods.isSafelisted (Methods.normalize name) <;> cases Methods.isForbidden (Methods.normalize name) <;> rfl

theorem reqHdrStep_eq (credentialed : Bool) (st : Validate.RState) (name : Bytes) :
    Gen.GoSrc.reqHdrStep credentialed st name = Validate.reqHdrStep credentialed st name := by
  unfold Gen.GoSrc.reqHdrStep
  rcases cmp_atom name Facts.headers_ValueWildcard with ⟨h1, h2, h3, h4⟩ | ⟨h1, h2, h3, h4⟩ <;>
    rcases cmp_atom name.lower Facts.headers_Authorization with ⟨k1, k2, k3, k4⟩ | ⟨k1, k2, k3, k4⟩ <;>
    simp only [Validate.reqHdrStep, Validate.star, h1, h2, h3, h4, k1, k2, k3, k4] <;> cases Headers.isValid name <;>
    cases st.allowAuth <;> cases st.asterisk <;> cases credentialed <;>
    cases Headers.isForbiddenRequestHeaderName name.lower <;> cases Headers.isProhibitedRequestHeaderName name.lower <;> eq_refl

theorem resHdrStep_eq (credentialed : Bool) (st : Validate.EState) (name : Bytes) :
    Gen.GoSrc.resHdrStep credentialed st name = Validate.resHdrStep credentialed st name := by
  unfold Gen.GoSrc.resHdrStep
  cases st with
  | mk set errs all =>
  rw [← List.append_nil errs]
  simp only [Validate.resHdrStep, Validate.star, List.append_assoc]
  generalize Headers.isValid name = b1
  generalize Headers.isForbiddenResponseHeaderName name.lower = b2
  generalize Headers.isProhibitedResponseHeaderName name.lower = b3
  generalize Headers.isSafelistedResponseHeaderName name.lower = b4
  rcases cmp_atom name Facts.headers_ValueWildcard with ⟨h1, h2, h3, h4⟩ | ⟨h1, h2, h3, h4⟩ <;>
    simp only [h1, h2, h3, h4] <;> cases credentialed <;> cases b1 <;> cases b2 <;> cases b3 <;> cases b4 <;> eq_refl

/-- One iteration of the `for _, name := range names` loops of `validateMethods`, `validateRequestHeaders` and
`validateResponseHeaders` — the single-pass folds with their mid-loop flags for `*` and
`Authorization`, the validity test *before* normalisation, the forbidden / prohibited / safelisted tests on the normalised
name, the error values, what is stored — is translated from /repo's config.go on every run and equals the hand-written
step function of the model, for every loop state and element; hence the folds over any configured list are the model's.
(The prologue `len(names) == 0` and the epilogue — `errors.Join`, the assignments into `icfg` — stay hand-modelled.) -/
theorem loops_eq (credentialed : Bool) (names : List Bytes) :
    names.foldl Gen.GoSrc.methodStep {} = names.foldl Validate.methodStep {} ∧
    names.foldl (Gen.GoSrc.reqHdrStep credentialed) {} = names.foldl (Validate.reqHdrStep credentialed) {} ∧
    names.foldl (Gen.GoSrc.resHdrStep credentialed) {} = names.foldl (Validate.resHdrStep credentialed) {} := by
  have h1 : Gen.GoSrc.methodStep = Validate.methodStep := by funext st n; exact methodStep_eq st n
  have h2 : Gen.GoSrc.reqHdrStep credentialed = Validate.reqHdrStep credentialed := by funext st n; exact reqHdrStep_eq credentialed st n
  have h3 : Gen.GoSrc.resHdrStep credentialed = Validate.resHdrStep credentialed := by funext st n; exact resHdrStep_eq credentialed st n
  rw [h1, h2, h3]
  exact ⟨rfl, rfl, rfl⟩

theorem originStep_eq (ext : Ext) (credentialed pnaAny tolInsecure tolPSL : Bool) (st : Validate.OState) (raw : Bytes) :
    Gen.GoSrc.originStep ext credentialed pnaAny tolInsecure tolPSL st raw =
      Validate.originStep ext credentialed pnaAny tolInsecure tolPSL st raw := by
  unfold Gen.GoSrc.originStep
  cases st with
  | mk tree errs allowAny =>
  rw [← List.append_nil errs]
  rcases cmp_atom raw Facts.headers_ValueWildcard with ⟨h1, h2, h3, h4⟩ | ⟨h1, h2, h3, h4⟩ <;>
    simp only [Validate.originStep, Validate.star, h1, h2, h3, h4, List.append_assoc]
  · cases credentialed <;> cases pnaAny <;> cases tolInsecure <;> cases tolPSL <;> rfl
  · cases hp : Pat.parsePattern ext raw with
    | error r => rfl
    | ok p =>
      dsimp only
      generalize Pat.isDeemedInsecure p = b1
      generalize Pat.hostIsEffectiveTLD ext p = b2
      rcases cmp_atom p.kind Kind.subdomains with ⟨k1, k2, k3, k4⟩ | ⟨k1, k2, k3, k4⟩ <;>
        simp only [k1, k2, k3, k4] <;> cases b1 <;> cases tolInsecure <;> cases credentialed <;> cases pnaAny <;>
        cases tolPSL <;> cases b2 <;> eq_refl

/-- One iteration of the `for _, raw := range patterns` loop of `validateOrigins` — the `*`
incompatibilities, `origins.ParsePattern` and its error, the insecure-origin and public-suffix guards with their tolerance
switches (each reported, in the code's order, none skipping another), `tree.Insert` — is translated from /repo's config.go on
every run and equals `Validate.originStep` for every loop state and element (whatever the IDNA / public-suffix oracles
answer); hence the fold over any list of patterns is the model's. -/
theorem originLoop_eq (ext : Ext) (credentialed pnaAny tolInsecure tolPSL : Bool) (patterns : List Bytes) :
    patterns.foldl (Gen.GoSrc.originStep ext credentialed pnaAny tolInsecure tolPSL) {} =
      patterns.foldl (Validate.originStep ext credentialed pnaAny tolInsecure tolPSL) {} := by
  have h : Gen.GoSrc.originStep ext credentialed pnaAny tolInsecure tolPSL = Validate.originStep ext credentialed pnaAny tolInsecure tolPSL := by
    funext st raw; exact originStep_eq ext credentialed pnaAny tolInsecure tolPSL st raw
  rw [h]

theorem toList_head {α : Type} (l : List α) (h : l.length ≤ 1) : l = l.head?.toList := by
  cases l with
  | nil => rfl
  | cons a t => cases t with
    | nil => rfl
    | cons b u => simp at h

theorem fieldErr_len (es : List CfgErr) : (Validate.fieldErr es).length ≤ 1 := by
  unfold Validate.fieldErr; split <;> simp

theorem newInternalConfigOrder_append (pna pnaNoCors : Bool) (e1 e2 e3 e4 e5 e6 : Option Err) :
    Gen.GoSrc.newInternalConfigOrder pna pnaNoCors e1 e2 e3 e4 e5 e6 =
      e1.toList ++ (if pna && pnaNoCors then [ETree.leaf CfgErr.pnaModes] else []) ++ e2.toList ++ e3.toList ++
        e4.toList ++ e5.toList ++ e6.toList := by
  unfold Gen.GoSrc.newInternalConfigOrder
  -- the translator emits exactly one `let errs` per statement of `newInternalConfig` it recognises by its text (any
  -- other statement becomes `GoRt.unsupported`), so their number is that of the validators plus the PNA test plus one
  extract_lets s0 s1 s2 s3 s4 s5 s6 s7
  have h1 : s1 = e1.toList := by cases e1 <;> rfl
  have h2 : s2 = s1 ++ (if pna && pnaNoCors then [ETree.leaf CfgErr.pnaModes] else []) := by
    show (if _ then _ else _) = _
    split <;> simp
  have h3 : s3 = s2 ++ e2.toList := by cases e2 <;> simp [s3]
  have h4 : s4 = s3 ++ e3.toList := by cases e3 <;> simp [s4]
  have h5 : s5 = s4 ++ e4.toList := by cases e4 <;> simp [s5]
  have h6 : s6 = s5 ++ e5.toList := by cases e5 <;> simp [s6]
  have h7 : s7 = s6 ++ e6.toList := by cases e6 <;> simp [s7]
  rw [h7, h6, h5, h4, h3, h2, h1]

/-- The order in which `newInternalConfig` runs its validators and appends their errors
— translated from /repo's config.go on every run as a function of the validators' results — is the order of `Validate.allErrs`
(status, PNA modes, origins, methods, request headers, max-age, response headers): every validator runs whatever the earlier
ones returned, nothing stops at the first problem. -/
theorem newInternalConfigOrder_eq (ext : Ext) (cfg : Config) :
    Gen.GoSrc.newInternalConfigOrder cfg.pna cfg.pnaNoCors (Validate.statusErrs cfg).head? (Validate.originErrs ext cfg).head?
        (Validate.methodErrs cfg).head? (Validate.reqHdrErrs cfg).head? (Validate.maxAgeErrs cfg).head? (Validate.resHdrErrs cfg).head? =
      Validate.allErrs ext cfg := by
  have h1 : (Validate.statusErrs cfg).length ≤ 1 := by unfold Validate.statusErrs; split <;> simp
  have h2 : (Validate.originErrs ext cfg).length ≤ 1 := by
    unfold Validate.originErrs
    split
    · rename_i he
      unfold Validate.originsResult Validate.origins
      simp [he]
    · exact fieldErr_len _
  have h5 : (Validate.maxAgeErrs cfg).length ≤ 1 := by unfold Validate.maxAgeErrs; split <;> simp
  rw [newInternalConfigOrder_append, ← toList_head _ h1, ← toList_head _ h2,
    ← toList_head (Validate.methodErrs cfg) (fieldErr_len _), ← toList_head (Validate.reqHdrErrs cfg) (fieldErr_len _),
    ← toList_head _ h5, ← toList_head (Validate.resHdrErrs cfg) (fieldErr_len _)]
  rfl

/-- Every copy `icfg.f = cfg.F` of `newInternalConfig` (each row begins with the number of validators run so far, `1:`)
happens when exactly one validator, the status one, which reads none of them, has run: `validateOrigins` and the later
validators see the flags they read (credentialed, the PNA modes, the two tolerance switches). -/
theorem newInternalConfigCopies_before_origins :
    Gen.GoSrc.newInternalConfigCopies.length = 5 ∧ ∀ c ∈ Gen.GoSrc.newInternalConfigCopies, c.take 2 = [49, 58] := by decide

/-- The four decision steps of the preflight pipeline, translated from /repo's middleware.go on every run, return the
hand-written model's result (with the model's own origin and header-list decisions) and, when the step fails, the buffer
exactly as it was: a failing step leaves nothing behind for debug mode to copy.  So the theorems about preflight
responses (C02, C03, C09, C16) speak about the code as it reads on the day of the run. -/
theorem pipeline_eq (icfg : ICfg) (buf : Buf) (reqHdrs : HdrMap) (origin acrm : Bytes) (debug : Bool) :
    Gen.GoSrc.processOriginForPreflight icfg buf origin [origin] = GoRt.result buf (Serve.processOriginForPreflight (modelDec icfg) icfg buf origin) ∧
    Gen.GoSrc.processACRPN icfg buf reqHdrs = GoRt.result buf (Serve.processACRPN icfg buf reqHdrs) ∧
    Gen.GoSrc.processACRM icfg buf acrm [acrm] = GoRt.result buf (Serve.processACRM icfg buf acrm) ∧
    Gen.GoSrc.processACRH icfg buf reqHdrs debug = GoRt.result buf (Serve.processACRH (modelDec icfg) icfg buf reqHdrs debug) :=
  ⟨processOriginForPreflight_eq icfg buf origin, processACRPN_eq icfg buf reqHdrs, processACRM_eq icfg buf acrm,
    processACRH_eq icfg buf reqHdrs debug⟩

/-- `handleNonCORS` and `handleCORSActual` — everything the middleware does to a request that is not a preflight —,
translated from /repo's middleware.go on every run, are the hand-written model's (and `handleCORSActual` writes no
status). -/
theorem handlers_eq (icfg : ICfg) (h : HdrMap) (origin : Bytes) (isOPTIONS : Bool) :
    Gen.GoSrc.handleNonCORS icfg h isOPTIONS = Serve.handleNonCORS icfg h isOPTIONS ∧
    Gen.GoSrc.handleCORSActual icfg h origin [origin] isOPTIONS = (Serve.handleCORSActual (modelDec icfg) icfg h origin isOPTIONS, none) :=
  ⟨handleNonCORS_eq icfg h isOPTIONS, handleCORSActual_eq icfg h origin isOPTIONS⟩

end Translated
end Cors
