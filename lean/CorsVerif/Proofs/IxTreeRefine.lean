import CorsVerif.Model.IxTree
import CorsVerif.Proofs.IxRefine
import CorsVerif.Proofs.Pattern
/-
  Refinement of the list-level tree functions (`Node.insert`, `Node.addPort`, `Node.upsert`,
  `Node.deleteSameSign`, `Node.elems`) by their index-level transliterations (Model/IxTree.lean),
  run on the slice representation `conc n` of a list-level tree; and, at the end, of `Pat.parseHostPattern`
  (`hostOnly`'s `hp.Value[len(subdomainWildcard)+1:]`, the trim `pattern.Value[:end]`) and of `newConfig`'s `icfg.acma[0]`.
  The list-level scans (`addScheme`, `upsert`, `insertKids`) are first put in the shape the Go code has: `bsearch`, then
  an insertion resp. an update at the lower bound (`*_ix`).  `buildI` is `validateOrigins`' loop of insertions at index
  level, defined here; `WFI_conc`: every `conc n` has the two length invariants of `origins.node`, since it unzips one list.
-/
namespace Cors
namespace Ix
open Gen Node Pat

theorem concKids_eq_map (K : List (Nat × Node)) : concKids K = K.map (fun e => conc e.2) := by
  induction K with
  | nil => simp [concKids]
  | cons x rest ih => obtain ⟨l, c⟩ := x; simp [concKids, ih]

theorem conc_mk (suf : Bytes) (S : List (Bytes × List Int)) (K : List (Nat × Node)) :
    conc (.mk suf S K) = .mk suf.reverse (K.map Prod.fst) (K.map (fun e => conc e.2)) (S.map Prod.fst) (S.map Prod.snd) := by
  rw [conc, concKids_eq_map]

theorem lowerBound_eq_findIdx {α : Type} (lt : α → α → Bool) (x : α) (l : List α) :
    lowerBound lt x l = l.findIdx (fun y => !lt y x) := by
  induction l with
  | nil => rfl
  | cons y ys ih => rw [lowerBound, List.findIdx_cons, ih]; cases lt y x <;> rfl

theorem lowerBound_le {α : Type} (lt : α → α → Bool) (x : α) (l : List α) : lowerBound lt x l ≤ l.length :=
  lowerBound_eq_findIdx lt x l ▸ List.findIdx_le_length

section
variable {α : Type} [BEq α] [Inhabited α] (lt : α → α → Bool) (x : α)

theorem bsearch_fst (l : List α) : (bsearch lt x l).1 = lowerBound lt x l := rfl

theorem bsearch_nil : bsearch lt x [] = (0, false) := rfl

theorem bsearch_cons_lt {y : α} (ys : List α) (h : lt y x = true) :
    bsearch lt x (y :: ys) = ((bsearch lt x ys).1 + 1, (bsearch lt x ys).2) := by
  simp [bsearch, lowerBound, h]

theorem bsearch_cons_ge {y : α} (ys : List α) (h : lt y x = false) : bsearch lt x (y :: ys) = (0, y == x) := by
  simp [bsearch, lowerBound, h]

/-- The searched slices are the keys `L.map f` of a list of pairs, and the position is used in `L`. -/
theorem bsearch_found [LawfulBEq α] {β : Type} {lt : α → α → Bool} {x : α} {f : β → α} {L : List β}
    (h : (bsearch lt x (L.map f)).2 = true) :
    lowerBound lt x (L.map f) < L.length ∧ (L.map f).getD (lowerBound lt x (L.map f)) default = x := by
  simpa [bsearch] using h
end

theorem nodeContainsI_refines (S : List (Bytes × List Int)) (scheme : Bytes) (port : Int) (wild : Bool) :
    nodeContainsI (S.map Prod.fst) (S.map Prod.snd) scheme port wild = .ok (containsPort S scheme port wild) :=
  nodeContains_refines S scheme port wild

theorem deleteSameSignI_refines (s : List Int) (v : Int) : deleteSameSignI s v = .ok (Node.deleteSameSign s v) := by
  unfold deleteSameSignI Node.deleteSameSign
  have hle := lowerBound_le intLt 0 s
  rw [lowerBound_eq_findIdx] at hle ⊢
  split
  · rw [List.dropWhile_eq_drop_findIdx_not]
    exact sliceG_from s _ rfl hle
  · rw [List.takeWhile_eq_take_findIdx_not]
    exact sliceG_ok s 0 _ rfl rfl (Nat.zero_le _) hle

theorem addScheme_ix (scheme : Bytes) (c : Int) (w : Bool) (S : List (Bytes × List Int)) :
    addScheme scheme c w S =
      if (bsearch Bytes.lt scheme (S.map Prod.fst)).2 then
        S.set (lowerBound Bytes.lt scheme (S.map Prod.fst)) (scheme,
          insertSorted (fun a b => decide (a < b)) c
            (if w then deleteSameSign (S.getD (lowerBound Bytes.lt scheme (S.map Prod.fst)) default).2 c
             else (S.getD (lowerBound Bytes.lt scheme (S.map Prod.fst)) default).2))
      else S.take (lowerBound Bytes.lt scheme (S.map Prod.fst)) ++ (scheme, [c]) ::
        S.drop (lowerBound Bytes.lt scheme (S.map Prod.fst)) := by
  induction S with
  | nil => rfl
  | cons x rest ih =>
    obtain ⟨s, ps⟩ := x
    rcases Bytes.lt_trichotomy s scheme with h | rfl | h
    · have hne : (s == scheme) = false := by simpa using Bytes.lt_ne h
      simp only [addScheme, hne, Bytes.lt_asymm h, Bool.false_eq_true, if_false, ih, List.map_cons, bsearch_cons_lt _ _ _ h,
        lowerBound, h, if_true]
      split <;> rfl
    · simp [addScheme, bsearch_cons_ge, lowerBound, Bytes.lt_irrefl]
    · have hne : (s == scheme) = false := by simpa using (Bytes.lt_ne h).symm
      simp [addScheme, hne, h, bsearch_cons_ge, lowerBound, Bytes.lt_asymm h]

theorem addI_refines (S : List (Bytes × List Int)) (scheme : Bytes) (port : Int) (wild : Bool) :
    addI (S.map Prod.fst) (S.map Prod.snd) scheme port wild =
      .ok ((addPort S scheme port wild).map Prod.fst, (addPort S scheme port wild).map Prod.snd) := by
  simp only [addI, addPort, nodeContainsI_refines, ok_bind]
  cases containsPort S scheme (code port wild) wild with
  | true => rfl
  | false =>
    have hle := lowerBound_le Bytes.lt scheme (S.map Prod.fst)
    rw [List.length_map] at hle
    simp only [Bool.false_eq_true, if_false, addScheme_ix, bsearch_fst]
    cases hf : (bsearch Bytes.lt scheme (S.map Prod.fst)).2 with
    | false =>
      simp only [Bool.not_false, if_true, Bool.false_eq_true, if_false, insertG_refines, List.length_map, hle, ok_bind,
        pure_eq_ok, List.map_append, List.map_take, List.map_drop, List.map_cons]
    | true =>
      obtain ⟨hlt, hlab⟩ := bsearch_found hf
      simp only [Bool.not_true, Bool.false_eq_true, if_false, if_true, idxG_ok, setG_ok, List.length_map, hlt, ok_bind,
        getD_map' Prod.snd S _ default default hlt, pure_eq_ok, map_fst_set_key S _ scheme _ hlt hlab]
      split
      · simp only [deleteSameSignI_refines, ok_bind, List.map_set]
        rfl
      · simp only [ok_bind, List.map_set]
        rfl

theorem upsert_ix (label : Nat) (child : Node) (K : List (Nat × Node)) :
    upsert label child K =
      if (bsearch natLt label (K.map Prod.fst)).2 then K.set (lowerBound natLt label (K.map Prod.fst)) (label, child)
      else K.take (lowerBound natLt label (K.map Prod.fst)) ++ (label, child) :: K.drop (lowerBound natLt label (K.map Prod.fst)) := by
  induction K with
  | nil => rfl
  | cons x rest ih =>
    obtain ⟨l, c⟩ := x
    rcases Nat.lt_trichotomy l label with h | rfl | h
    · have h1 : ¬ label < l := by omega
      have h2 : (label == l) = false := by simp; omega
      simp [upsert, h1, h2, ih, bsearch_cons_lt, lowerBound, natLt, h]
      split <;> rfl
    · simp [upsert, bsearch_cons_ge, lowerBound, natLt]
    · have h2 : ¬ l < label := by omega
      have h3 : ¬ l = label := by omega
      simp [upsert, h, bsearch_cons_ge, lowerBound, natLt, h2, h3]

theorem insertKids_ix (label : Nat) (s scheme : Bytes) (port : Int) (wild : Bool) (K : List (Nat × Node)) :
    insertKids K label s scheme port wild =
      if (bsearch natLt label (K.map Prod.fst)).2 then
        K.set (lowerBound natLt label (K.map Prod.fst))
          (label, insertChild (K.getD (lowerBound natLt label (K.map Prod.fst)) default).2 s scheme port wild)
      else upsert label (leaf s scheme port wild) K := by
  induction K with
  | nil => simp [insertKids, bsearch_nil, upsert]
  | cons x rest ih =>
    obtain ⟨l, c⟩ := x
    rw [insertKids]
    rcases Nat.lt_trichotomy l label with h | rfl | h
    · have h1 : ¬ label < l := by omega
      have h2 : (label == l) = false := by simp; omega
      simp [upsert, h1, h2, ih, bsearch_cons_lt, lowerBound, natLt, h]
      split <;> rfl
    · simp [bsearch_cons_ge, lowerBound, natLt]
    · have h2 : ¬ l < label := by omega
      have h3 : ¬ l = label := by omega
      simp [upsert, h, bsearch_cons_ge, natLt, h2, h3]

theorem upsertEdgeI_found (K : List (Nat × Node)) (label : Nat) (child : INode)
    (hf : (bsearch natLt label (K.map Prod.fst)).2 = true) :
    upsertEdgeI (K.map Prod.fst) (K.map (fun e => conc e.2)) label child =
      .ok (K.map Prod.fst, (K.map (fun e => conc e.2)).set (lowerBound natLt label (K.map Prod.fst)) child,
        lowerBound natLt label (K.map Prod.fst)) := by
  have hlt := (bsearch_found hf).1
  simp only [upsertEdgeI, hf, bsearch_fst, Bool.not_true, Bool.false_eq_true, if_false, setG_ok, idxG_ok, List.length_map,
    List.length_set, hlt, ok_bind, pure_eq_ok]

theorem upsertEdgeI_refines (K : List (Nat × Node)) (label : Nat) (child : Node) :
    upsertEdgeI (K.map Prod.fst) (K.map (fun e => conc e.2)) label (conc child) =
      .ok ((upsert label child K).map Prod.fst, (upsert label child K).map (fun e => conc e.2),
        lowerBound natLt label (K.map Prod.fst)) := by
  rw [upsert_ix]
  cases hf : (bsearch natLt label (K.map Prod.fst)).2 with
  | true =>
    obtain ⟨hlt, hlab⟩ := bsearch_found hf
    rw [upsertEdgeI_found K label _ hf, if_pos rfl, map_fst_set_key K _ label child hlt hlab, List.map_set]
  | false =>
    have hle := lowerBound_le natLt label (K.map Prod.fst)
    rw [List.length_map] at hle
    simp only [upsertEdgeI, hf, bsearch_fst, Bool.not_false, if_true, Bool.false_eq_true, if_false, insertG_refines,
      List.length_map, hle, ok_bind, pure_eq_ok, List.map_append, List.map_take, List.map_drop, List.map_cons]
    rw [idxG_ok _ _ (by simp; omega)]
    rfl

theorem leafI_refines (s scheme : Bytes) (port : Int) (wild : Bool) :
    leafI s scheme port wild = .ok (conc (leaf s.reverse scheme port wild)) := by
  have := addI_refines [] scheme port wild
  simp only [List.map_nil] at this
  simp only [leafI, leaf, this, ok_bind, pure_eq_ok, conc_mk, List.reverse_reverse, List.map_nil]

theorem insertLoop_refines : ∀ (fuel : Nat) (n : Node) (s scheme : Bytes) (port : Int) (wild : Bool), depth n < fuel →
    insertLoop fuel (conc n) s scheme port wild = .ok (conc (Node.insert n s.reverse scheme port wild)) := by
  intro fuel
  induction fuel with
  | zero => intro n s scheme port wild h; omega
  | succ fuel ih =>
    intro n s scheme port wild hd
    obtain ⟨nsuf, S, K⟩ := n
    rw [conc_mk nsuf S K]
    simp only [insertLoop, lastByte_refines, ok_bind]
    rcases List.eq_nil_or_concat s with rfl | ⟨pre, label, rfl⟩
    · simp only [List.getLast?_nil, List.reverse_nil, addI_refines, Node.insert, ok_bind, pure_eq_ok, conc_mk]
    · have hrev : (pre ++ [label]).reverse = label :: pre.reverse := by simp
      simp only [List.concat_eq_append, List.getLast?_concat, hrev, Node.insert, nodeContainsI_refines, ok_bind]
      cases hcp : containsPort S scheme port true with
      | true => simp only [if_true, pure_eq_ok, conc_mk]
      | false =>
        simp only [Bool.false_eq_true, if_false, insertKids_ix, bsearch_fst]
        cases hf : (bsearch natLt label (K.map Prod.fst)).2 with
        | false =>
          -- no edge: a fresh leaf goes in
          simp only [Bool.not_false, if_true, Bool.false_eq_true, if_false, leafI_refines, hrev, ok_bind,
            upsertEdgeI_refines, pure_eq_ok, conc_mk]
        | true =>
          obtain ⟨hlt, hlab⟩ := bsearch_found hf
          have hdc : depth (K.getD (lowerBound natLt label (K.map Prod.fst)) default).2 < fuel := by
            have h1 := depth_mem K _ (getD_mem K _ default hlt)
            rw [depth] at hd
            omega
          simp only [Bool.not_true, Bool.false_eq_true, if_false, if_true, idxG_ok, List.length_map, hlt, ok_bind,
            getD_map' (fun e => conc e.2) K _ default default hlt]
          generalize hi : lowerBound natLt label (K.map Prod.fst) = i at *
          generalize (K.getD i default).2 = c at *
          obtain ⟨csuf, cS, cK⟩ := c
          rw [conc_mk nsuf S (K.set _ _), map_fst_set_key K i label _ hlt hlab, List.map_set, conc_mk csuf cS cK]
          simp only [INode.suf, INode.edges, INode.children, INode.schemes, INode.ports]
          rw [← hrev, splitAtCommonSuffix_refines, List.reverse_reverse, hrev, insertChild]
          simp only [ok_bind, List.getLast?_reverse]
          obtain ⟨ra, rb, common⟩ := splitCommon (label :: pre.reverse) csuf
          cases rb with
          | nil =>
            -- `child.suf` is a suffix of `s`: the loop goes on at the child
            have := ih (.mk csuf cS cK) ra.reverse scheme port wild hdc
            rw [List.reverse_reverse, conc_mk] at this
            simp only [List.head?_nil, this, ok_bind, pure_eq_ok]
          | cons l1 restC =>
            -- the child is split: `node{suf: common}` takes its place, the old child hangs below it
            have hg := upsertEdgeI_refines [] l1 (.mk (l1 :: restC) cS cK)
            simp only [List.map_nil, upsert, List.map_cons, conc_mk] at hg
            simp only [List.head?_cons, upsertEdgeI_found K label _ hf, hi, hg, ok_bind, List.set_set]
            cases ra with
            | nil =>
              have ha := addI_refines [] scheme port wild
              simp only [List.map_nil] at ha
              simp only [List.head?_nil, ha, ok_bind, pure_eq_ok, conc_mk,
                List.map_cons, List.map_nil]
            | cons l2 restS =>
              have hg2 := upsertEdgeI_refines [(l1, .mk (l1 :: restC) cS cK)] l2 (leaf (l2 :: restS) scheme port wild)
              simp only [List.map_nil, List.map_cons, conc_mk] at hg2
              simp only [List.head?_cons, leafI_refines, List.reverse_reverse, hg2, ok_bind, pure_eq_ok]
              simp only [conc_mk, List.map_nil]

mutual
theorem depthI_conc : (n : Node) → depthI (conc n) = depth n
  | .mk suf S K => by rw [conc, depthI, depth, depthIs_concKids K]
theorem depthIs_concKids : (K : List (Nat × Node)) → depthIs (concKids K) = depthKids K
  | [] => by simp [concKids, depthIs, depthKids]
  | (l, c) :: rest => by rw [concKids, depthIs, depthKids, depthI_conc c, depthIs_concKids rest]
end

/-- `h` is what `s[0]` needs; it holds of every parsed pattern (`C17_value_nonempty`). -/
theorem treeInsert_refines (t : Node) (p : Pattern) (h : p.value ≠ []) :
    treeInsert (conc t) p = .ok (conc (Tree.insert t p)) := by
  unfold treeInsert Tree.insert
  cases hv : p.value with
  | nil => exact absurd hv h
  | cons c rest =>
    simp only [idx_zero, ok_bind]
    by_cases hc : c = 42
    · subst hc
      simp only [beq_self_eq_true, if_true, (At.tail 42 rest).sliceFrom, ok_bind]
      exact insertLoop_refines _ t rest p.scheme p.port true (by rw [depthI_conc]; omega)
    · have hne : (c == 42) = false := by simpa using hc
      simp only [hne, Bool.false_eq_true, if_false]
      rw [insertLoop_refines _ t (c :: rest) p.scheme p.port false (by rw [depthI_conc]; omega)]
      split
      · rename_i s heq
        simp at heq
        exact absurd heq.1 hc
      · rfl

theorem conc_empty : conc Node.empty = INode.zero := by
  unfold Node.empty INode.zero; rw [conc_mk]; rfl

/-- What `validateOrigins`' loop does to the tree: `tree.Insert(&pattern)` for each pattern `ParsePattern` returned. -/
def buildI : List Pattern → INode → Chk INode
  | [], t => pure t
  | p :: ps, t => do
    let t' ← treeInsert t p
    buildI ps t'

theorem buildI_refines : ∀ (ps : List Pattern) (t : Node), (∀ p ∈ ps, p.value ≠ []) →
    buildI ps (conc t) = .ok (conc (ps.foldl Tree.insert t)) := by
  intro ps
  induction ps with
  | nil => intro t _; rfl
  | cons p ps ih =>
    intro t h
    simp only [buildI, treeInsert_refines t p (h p List.mem_cons_self), ok_bind, List.foldl_cons]
    exact ih _ (fun q hq => h q (List.mem_cons_of_mem _ hq))

mutual
theorem WFI_conc : (n : Node) → WFI (conc n)
  | .mk suf S K => by
    rw [conc, WFI]
    refine ⟨?_, by simp, WFIs_concKids K⟩
    rw [concKids_eq_map]; simp
theorem WFIs_concKids : (K : List (Nat × Node)) → WFIs (concKids K)
  | [] => by rw [concKids, WFIs]; trivial
  | (l, c) :: rest => by rw [concKids, WFIs]; exact ⟨WFI_conc c, WFIs_concKids rest⟩
end

theorem elemsSchemes_refines (host : Bytes) : ∀ (S P : List (Bytes × List Int)),
    elemsSchemes ((P ++ S).map Prod.fst) host (S.map Prod.snd) P.length =
      .ok (S.flatMap fun (scheme, ports) => ports.map (renderEntry scheme host)) := by
  intro S
  induction S with
  | nil => intro P; rfl
  | cons x rest ih =>
    intro P
    obtain ⟨sch, ps⟩ := x
    have := ih (P ++ [(sch, ps)])
    rw [List.append_assoc, List.length_append] at this
    simp only [List.cons_append, List.nil_append, List.length_cons, List.length_nil] at this
    simp only [List.map_cons, elemsSchemes]
    rw [idxG_ok _ P.length (by simp), getD_map_append, ok_bind, this]
    simp [ok_bind, pure_eq_ok, renderPorts]

theorem elemsChildren_refines (f : INode → Bytes → Chk (List Bytes)) (host : Bytes) : ∀ (K P : List (Nat × Node)),
    (∀ e ∈ K, f (conc e.2) host = .ok (Node.elems e.2 host)) →
    elemsChildren f ((P ++ K).map (fun e => conc e.2)) host (K.map (fun e => conc e.2)) P.length =
      .ok (Node.elemsKids K host) := by
  intro K
  induction K with
  | nil => intro P _; rw [Node.elemsKids]; rfl
  | cons x rest ih =>
    intro P hf
    obtain ⟨l, c⟩ := x
    have := ih (P ++ [(l, c)]) (fun e he => hf e (List.mem_cons_of_mem _ he))
    rw [List.append_assoc, List.length_append] at this
    simp only [List.cons_append, List.nil_append, List.length_cons, List.length_nil] at this
    simp only [List.map_cons, elemsChildren]
    rw [idxG_ok _ P.length (by simp), getD_map_append, ok_bind, hf (l, c) List.mem_cons_self, ok_bind, this, Node.elemsKids]
    rfl

/-- `n.schemes[i]` for `i` ranging over `n.ports` is where `len(schemes) == len(ports)` is needed. -/
theorem elemsLoop_refines : ∀ (fuel : Nat) (n : Node) (acc : Bytes), depth n < fuel →
    elemsLoop fuel (conc n) acc = .ok (Node.elems n acc) := by
  intro fuel
  induction fuel with
  | zero => intro n acc h; omega
  | succ fuel ih =>
    intro n acc hd
    obtain ⟨nsuf, S, K⟩ := n
    have h1 := elemsSchemes_refines (nsuf.reverse ++ acc) S []
    have h2 := elemsChildren_refines (elemsLoop fuel) (nsuf.reverse ++ acc) K [] (by
      intro e he
      apply ih
      have := depth_mem K e he
      rw [depth] at hd
      omega)
    simp only [List.nil_append, List.length_nil] at h1 h2
    rw [conc_mk, Node.elems]
    simp only [elemsLoop, h1, h2, ok_bind]
    rfl

theorem treeElems_refines (t : Node) : treeElems (conc t) = .ok (Tree.elems t) := by
  have := elemsLoop_refines (depthI (conc t) + 1) t [] (by rw [depthI_conc]; omega)
  simp only [treeElems, Tree.elems, this, ok_bind]
  rfl

/-! ### `parseHostPattern`, `hostOnly`, `newConfig` -/

theorem fastParseHost_len {str : Bytes} {host : Host} {rest : Bytes}
    (h : Lex.fastParseHost str = some (host, rest)) : host.value.length ≤ str.length := by
  rcases Lex.fastParseHost_cases h with ⟨rfl, _⟩ | hs
  · simp only [List.length_cons, List.length_append]; omega
  · rw [hs.eq, List.length_append]; omega

theorem hostOnlyI_refines (value : Bytes) (kind : Kind) (h : kind = .subdomains → 2 ≤ value.length) :
    hostOnlyI value kind = .ok (hostOnly value kind) := by
  unfold hostOnlyI hostOnly
  split
  · rename_i hk
    exact sliceFrom_ok value 2 rfl (h (by simpa using hk))
  · rfl

theorem peekKind_subdomains {str : Bytes} (hk : peekKind str = .subdomains) : 2 ≤ str.length := by
  rcases peekKind_cases str with h | ⟨tl, rfl⟩
  · rw [h] at hk; cases hk
  · exact Nat.le_add_left 2 _

theorem parseHostPatternI_refines (ext : Ext) (str : Bytes) :
    parseHostPatternI ext str = .ok (parseHostPattern ext str) := by
  unfold parseHostPatternI parseHostPattern
  simp only [hostOnlyI_refines str (peekKind str) peekKind_subdomains, fastParseHost_refines, ok_bind]
  cases hf : Lex.fastParseHost (hostOnly str (peekKind str)) with
  | none => rfl
  | some p =>
    obtain ⟨host, rest⟩ := p
    have hlen := fastParseHost_len hf
    unfold hostOnly at hlen
    -- `pattern.Value[:end]`: the lexed host, and the two bytes `hostOnly` cut off, lie inside the string
    cases hk : peekKind str == Kind.subdomains with
    | true =>
      have h2 := peekKind_subdomains (by simpa using hk)
      simp only [hk, if_true, List.length_drop, Facts.origins_subdomainWildcard, List.length_cons, List.length_nil] at hlen
      have hslice : sliceTo str (len host.value + ((Facts.origins_subdomainWildcard.length : Int) + 1)) =
          .ok (str.take (host.value.length + (Facts.origins_subdomainWildcard.length + 1))) :=
        sliceTo_ok str _ (by simp [len, Facts.origins_subdomainWildcard]) (by simp [Facts.origins_subdomainWildcard]; omega)
      simp only [Bool.true_and, if_true, hslice, ok_bind, pure_eq_ok]
      by_cases hlong : host.value.length > Facts.origins_maxHostLen - 2
      · simp only [hlong, decide_true, if_true]
      · simp only [hlong, decide_false, Bool.false_eq_true, if_false]
        cases host.assumeIP with
        | true => rfl
        | false =>
          simp only [Bool.false_eq_true, if_false]
          cases idnaOK ext host.value <;> rfl
    | false =>
      simp only [hk, Bool.false_eq_true, if_false] at hlen
      have hslice : sliceTo str (len host.value + 0) = .ok (str.take (host.value.length + 0)) :=
        sliceTo_ok str _ (by simp [len]) (by simpa using hlen)
      simp only [Bool.false_and, Bool.false_eq_true, if_false, hslice, ok_bind, pure_eq_ok]
      cases host.assumeIP with
      | true =>
        simp only [if_true]
        cases ipVerdict ext host.value <;> rfl
      | false =>
        simp only [Bool.false_eq_true, if_false]
        cases idnaOK ext host.value <;> rfl

theorem acmaHead_refines (acma : List Bytes) : acmaHead acma = .ok acma.head? := by
  cases acma with
  | nil => rfl
  | cons a t =>
    have h : idxG (a :: t) 0 = .ok a := idxG_ok (a :: t) 0 (by simp)
    have hl : lenG (a :: t) > 0 := by simp [lenG]
    simp only [acmaHead, hl, if_true, h, ok_bind, pure_eq_ok, List.head?_cons]

end Ix
end Cors
