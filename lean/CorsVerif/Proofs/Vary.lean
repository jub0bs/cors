import CorsVerif.Proofs.Handlers
import CorsVerif.Proofs.Pipeline
/-
  What the middleware does to `Vary`, whichever handler runs: one optional append.
-/
namespace Cors
open Gen Serve Pipeline

/-- The value appended is decided by the configuration and by whether the method is OPTIONS (a preflight is an OPTIONS
request and gets the same four-name value as any other). -/
theorem serveDec_vary (dec : Dec) (icfg : ICfg) (dbg : Bool) (r : Req) (pre : HdrMap) :
    (serveDec dec icfg dbg r pre).hdrs Facts.headers_Vary =
      (pre.addOpt Facts.headers_Vary (varyValue icfg (r.method == OPTIONS))) Facts.headers_Vary := by
  cases hp : r.isPreflight with
  | false =>
    obtain ⟨a, c, e, hw⟩ := nonPreflightHdrs_eq dec icfg r pre
    rw [serveDec_nonpreflight hp]
    show nonPreflightHdrs dec icfg r pre _ = _
    rw [hw, written_vary]
  | true =>
    obtain ⟨o, a, _, _, e⟩ := serveDec_preflight hp
    have hm : (r.method == OPTIONS) = true := by
      simp only [Req.isPreflight, Bool.and_eq_true] at hp
      exact hp.1.1
    rw [e, handleCORSPreflight_other _ _ _ _ _ _ _ (by simp [isPipelineKey]) NamesNe.vary_acma, preflightVary_vary, hm]
    exact (add_same ..).symm

theorem serveDec_vary_kept (dec : Dec) (icfg : ICfg) (dbg : Bool) (r : Req) (pre : HdrMap) :
    keptAsPrefix (pre Facts.headers_Vary) ((serveDec dec icfg dbg r pre).hdrs Facts.headers_Vary) := by
  rw [serveDec_vary]
  exact keptAsPrefix_addOpt _ _ _

end Cors
