import CorsVerif.Proofs.Elems
/-
  What `Tree.Insert` does to the list of stored entries (newest first), stated without the tree (`absInsert`):
  an insertion is a no-op when a stored entry makes it redundant (`drops`), and otherwise stores
  the new entry after removing the ports a wildcard port supersedes (`deletes`).  Then how `absInsert`
  commutes with the ways a node's entry list is assembled (append, `pre`), and what it does to
  the union of the coverages of the stored entries (`absInsert_any_ecov`).
-/
namespace Cors
namespace Node

/-- At the node of the new entry itself (`node.add`'s call of `node.contains`): a non-wildcard-subdomains
entry is redundant next to the same port or the wildcard port; a wildcard-subdomains entry only next to
its wildcard port (the Go code passes the already offset port, so exact duplicates go unnoticed). -/
def sameDrop (c' c : Int) : Bool := if c < 0 then c' == -1 else (c' == c || c' == 65536)

/-- At a node passed on the way down (`n.contains(scheme, port, true)`): a wildcard-subdomains entry
with the same port or the wildcard port. -/
def ancDrop (c' c : Int) : Bool := c' == decodePort c - 65537 || c' == -1

/-- The stored entry `e'` makes the insertion of `e` a no-op. -/
def drops (e' e : Entry) : Bool :=
  e'.2.1 == e.2.1 &&
    (if e'.1 = e.1 then sameDrop e'.2.2 e.2.2 else (decide (e'.1 <+: e.1) && ancDrop e'.2.2 e.2.2))

/-- Storing `e` removes the stored entry `e'`: same node, same scheme, `e` has the wildcard port and
`e'` is of the same kind (`deleteSameSign`). -/
def deletes (e e' : Entry) : Bool :=
  decide (e.1 = e'.1) && e.2.1 == e'.2.1 &&
    ((e.2.2 == 65536 && decide (0 ≤ e'.2.2)) || (e.2.2 == -1 && decide (e'.2.2 < 0)))

/-- One insertion, on the list of stored entries (newest first). -/
def absInsert (S : List Entry) (e : Entry) : List Entry :=
  if S.any (drops · e) then S else e :: S.filter (fun e' => !deletes e e')

def Apart (x e : Entry) : Prop := drops x e = false ∧ deletes e x = false

theorem apart_of_not_prefix {x e : Entry} (h : ¬ x.1 <+: e.1) : Apart x e := by
  have hne : x.1 ≠ e.1 := fun hh => h (hh ▸ List.prefix_refl _)
  constructor
  · simp [drops, hne, h]
  · have : ¬ e.1 = x.1 := fun hh => hne hh.symm
    simp [deletes, this]

/-- What lies under another edge than the one the new key takes. -/
theorem apart_of_label {x e : Entry} {suf : Bytes} {l : Nat} (hs : suf <+: x.1) (hl : suf.head? = some l)
    (he : e.1.head? ≠ some l) : Apart x e := by
  refine apart_of_not_prefix fun hh => he ?_
  obtain ⟨r, hr⟩ := hs.trans hh
  cases suf with
  | nil => cases hl
  | cons a t => rw [← hr]; exact hl

theorem apart_list {A : List Entry} {e : Entry} (h : ∀ x ∈ A, Apart x e) :
    A.any (drops · e) = false ∧ A.filter (fun e' => !deletes e e') = A := by
  constructor
  · rw [List.any_eq_false]; intro x hx; rw [(h x hx).1]; simp
  · rw [List.filter_eq_self]; intro x hx; rw [(h x hx).2]; rfl

theorem absInsert_append_left (A B : List Entry) (e : Entry) (h : ∀ x ∈ A, Apart x e) :
    (absInsert (A ++ B) e).Perm (A ++ absInsert B e) := by
  unfold absInsert
  rw [List.any_append, (apart_list h).1, Bool.false_or]
  split
  · exact List.Perm.refl _
  · rw [List.filter_append, (apart_list h).2]
    exact List.perm_middle.symm

theorem absInsert_append_right (A B : List Entry) (e : Entry) (h : ∀ x ∈ B, Apart x e) :
    absInsert (A ++ B) e = absInsert A e ++ B := by
  unfold absInsert
  rw [List.any_append, (apart_list h).1, Bool.or_false]
  split
  · rfl
  · rw [List.filter_append, (apart_list h).2]; rfl

theorem absInsert_apart (S : List Entry) (e : Entry) (h : ∀ x ∈ S, Apart x e) : absInsert S e = e :: S :=
  absInsert_append_right [] S e h

theorem drops_pre (k : Bytes) (x e : Entry) : drops (pre k x) (pre k e) = drops x e := by
  unfold drops pre
  have h1 : (k ++ x.1 = k ++ e.1) ↔ (x.1 = e.1) := List.append_right_inj k
  have h2 : (k ++ x.1 <+: k ++ e.1) ↔ (x.1 <+: e.1) := List.prefix_append_right_inj k
  by_cases h : x.1 = e.1
  · rw [if_pos h, if_pos (h1.mpr h)]
  · rw [if_neg h, if_neg (fun hh => h (h1.mp hh))]
    simp only [h2]

theorem deletes_pre (k : Bytes) (e x : Entry) : deletes (pre k e) (pre k x) = deletes e x := by
  unfold deletes pre
  have h1 : (k ++ e.1 = k ++ x.1) ↔ (e.1 = x.1) := List.append_right_inj k
  simp only [h1]

theorem absInsert_pre (k : Bytes) (S : List Entry) (e : Entry) :
    absInsert (S.map (pre k)) (pre k e) = (absInsert S e).map (pre k) := by
  unfold absInsert
  rw [List.any_map]
  have h1 : ((fun x => drops x (pre k e)) ∘ pre k) = (fun x => drops x e) := by
    funext x; simp only [Function.comp]; exact drops_pre k x e
  rw [h1]
  split
  · rfl
  · rw [List.filter_map, List.map_cons]
    have h2 : ((fun e' => !deletes (pre k e) e') ∘ pre k) = (fun e' => !deletes e e') := by
      funext x; simp only [Function.comp]; rw [deletes_pre]
    rw [h2]

theorem sameDrop_decode {c' c : Int} (h : sameDrop c' c = true) :
    (c' < 0 ↔ c < 0) ∧ (decodePort c' = decodePort c ∨ decodePort c' = 65536) := by
  unfold sameDrop at h
  unfold decodePort
  split at h
  · obtain rfl : c' = -1 := by simpa using h
    exact ⟨by omega, Or.inr rfl⟩
  · simp only [Bool.or_eq_true, beq_iff_eq] at h
    rcases h with rfl | rfl
    · exact ⟨Iff.rfl, Or.inl rfl⟩
    · exact ⟨by omega, Or.inr rfl⟩

theorem ancDrop_decode {c' c : Int} (hc : c ≤ 65536) (h : ancDrop c' c = true) :
    c' < 0 ∧ (decodePort c' = decodePort c ∨ decodePort c' = 65536) := by
  simp only [ancDrop, Bool.or_eq_true, beq_iff_eq] at h
  unfold decodePort at *
  rcases h with rfl | rfl
  · have : (if c < 0 then c + 65537 else c) ≤ 65536 := by split <;> omega
    exact ⟨by omega, Or.inl (by rw [if_pos (by omega)]; omega)⟩
  · exact ⟨by omega, Or.inr rfl⟩

theorem ecov_of_drops {x e : Entry} (hd : drops x e = true) (he : e.2.2 ≤ 65536) {h sch' : Bytes} {p' : Int}
    (hc : ecov e h sch' p' = true) : ecov x h sch' p' = true := by
  obtain ⟨kx, sx, cx⟩ := x
  obtain ⟨ke, se, ce⟩ := e
  rw [ecov_iff] at hc ⊢
  simp only [drops, Bool.and_eq_true, beq_iff_eq] at hd
  obtain ⟨rfl, hd⟩ := hd
  obtain ⟨rfl, hk, hp⟩ := hc
  split at hd
  · -- the same node: the same condition on the host
    rename_i hkk
    subst hkk
    obtain ⟨hw, hpx⟩ := sameDrop_decode hd
    refine ⟨rfl, ?_, hpx.elim (fun h => h ▸ hp) Or.inr⟩
    simp only [hw]
    exact hk
  · -- an ancestor: its key is a strict prefix of the new key, hence of whatever host that key matches
    rename_i hne
    simp only [Bool.and_eq_true, decide_eq_true_eq] at hd
    obtain ⟨hpre, hd⟩ := hd
    obtain ⟨hw, hpx⟩ := ancDrop_decode he hd
    refine ⟨rfl, ?_, hpx.elim (fun h => h ▸ hp) Or.inr⟩
    have hlt : kx.length < ke.length := by
      rcases Nat.lt_or_ge kx.length ke.length with h | h
      · exact h
      · exact absurd (hpre.eq_of_length_le h) hne
    rw [if_pos hw]
    split at hk
    · exact ⟨by omega, hpre.trans hk.2⟩
    · subst hk; exact ⟨hlt, hpre⟩

theorem ecov_of_deletes {e x : Entry} (hd : deletes e x = true) {h sch' : Bytes} {p' : Int}
    (hc : ecov x h sch' p' = true) : ecov e h sch' p' = true := by
  obtain ⟨kx, sx, cx⟩ := x
  obtain ⟨ke, se, ce⟩ := e
  rw [ecov_iff] at hc ⊢
  simp only [deletes, Bool.and_eq_true, Bool.or_eq_true, beq_iff_eq, decide_eq_true_eq] at hd
  obtain ⟨⟨rfl, rfl⟩, hd⟩ := hd
  obtain ⟨rfl, hk, _⟩ := hc
  refine ⟨rfl, ?_⟩
  rcases hd with ⟨rfl, hx⟩ | ⟨rfl, hx⟩
  · rw [if_neg (by omega)] at hk; exact ⟨hk, Or.inr rfl⟩
  · rw [if_pos hx] at hk; exact ⟨hk, Or.inr rfl⟩

theorem absInsert_any_ecov (S : List Entry) (e : Entry) (he : e.2.2 ≤ 65536) (h sch' : Bytes) (p' : Int) :
    (absInsert S e).any (ecov · h sch' p') = (S.any (ecov · h sch' p') || ecov e h sch' p') := by
  unfold absInsert
  split
  · rename_i hany
    obtain ⟨x, hx, hd⟩ := List.any_eq_true.mp hany
    cases hc : ecov e h sch' p' with
    | false => rw [Bool.or_false]
    | true => rw [Bool.or_true]; exact List.any_eq_true.mpr ⟨x, hx, ecov_of_drops hd he hc⟩
  · rw [List.any_cons, Bool.or_comm]
    cases hc : ecov e h sch' p' with
    | true => simp
    | false =>
      rw [Bool.or_false, Bool.or_false, List.any_filter]
      congr 1; funext x
      cases hd : deletes e x with
      | false => rfl
      | true =>
        cases hx : ecov x h sch' p' with
        | false => rfl
        | true => rw [ecov_of_deletes hd hx] at hc; cases hc

end Node
end Cors
