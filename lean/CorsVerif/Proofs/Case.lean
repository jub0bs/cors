import CorsVerif.Proofs.Folds
import CorsVerif.Proofs.Tokens
/-
  Byte case mapping and the names that differ only by it.  `Bytes.lower`, `Bytes.upper` and
  `Methods.normalize` are idempotent, keep validity (Proofs/Tokens.lean) and map only `*` to `*`; hence
  everything the validators ask of a header name depends only on its byte-lowercase form (`SameName`), and
  everything they ask of a method only on its normal form (`SameMethod`).
-/
namespace Cors
open Headers Folds

theorem lowerByte_idem (b : Nat) : Bytes.lowerByte (Bytes.lowerByte b) = Bytes.lowerByte b := by
  unfold Bytes.lowerByte
  split
  · rw [if_neg (by omega)]
  · rfl

theorem upperByte_idem (b : Nat) : Bytes.upperByte (Bytes.upperByte b) = Bytes.upperByte b := by
  unfold Bytes.upperByte
  split
  · rw [if_neg (by omega)]
  · rfl

theorem lower_idem (s : Bytes) : s.lower.lower = s.lower := by
  unfold Bytes.lower
  rw [List.map_map]
  exact List.map_congr_left fun b _ => lowerByte_idem b

theorem upper_idem (s : Bytes) : s.upper.upper = s.upper := by
  unfold Bytes.upper
  rw [List.map_map]
  exact List.map_congr_left fun b _ => upperByte_idem b

theorem map_eq_star {f : Nat → Nat} (hf : ∀ b, f b = 42 → b = 42) {n : Bytes} (h : n.map f = Validate.star) :
    n = Validate.star := by
  match n, h with
  | [b], h => rw [hf b (List.cons.inj h).1]; rfl
  | _ :: _ :: _, h => cases (List.cons.inj h).2

theorem lower_eq_star {n : Bytes} (h : n.lower = Validate.star) : n = Validate.star :=
  map_eq_star (fun b hb => by unfold Bytes.lowerByte at hb; split at hb <;> omega) h

theorem upper_eq_star {n : Bytes} (h : n.upper = Validate.star) : n = Validate.star :=
  map_eq_star (fun b hb => by unfold Bytes.upperByte at hb; split at hb <;> omega) h

theorem normalize_upper (m : Bytes) : (Methods.normalize m).upper = m.upper := by
  unfold Methods.normalize
  simp only []
  split
  · exact upper_idem m
  · rfl

theorem normalize_idem (m : Bytes) : Methods.normalize (Methods.normalize m) = Methods.normalize m := by
  unfold Methods.normalize
  simp only []
  split
  · rename_i hc; rw [upper_idem, if_pos hc]
  · rfl

def SameName (a b : Bytes) : Prop := a.lower = b.lower

instance (a b : Bytes) : Decidable (SameName a b) := inferInstanceAs (Decidable (a.lower = b.lower))

theorem SameName.lower (n : Bytes) : SameName n.lower n := lower_idem n

theorem SameName.star {a b : Bytes} (h : SameName a b) : (a == Validate.star) = (b == Validate.star) := by
  rw [Bool.eq_iff_iff, beq_iff_eq, beq_iff_eq]
  constructor
  · intro ha; subst ha; exact lower_eq_star h.symm
  · intro hb; subst hb; exact lower_eq_star h

theorem SameName.valid {a b : Bytes} (h : SameName a b) : Headers.isValid a = Headers.isValid b := by
  rw [← valid_lower_eq a, ← valid_lower_eq b, h]

theorem SameName.isAuth {a b : Bytes} (h : SameName a b) : isAuth a = isAuth b := by
  unfold Folds.isAuth
  simp only [bne, h.star, h.valid]
  rw [h]

theorem SameName.goodReq {a b : Bytes} (h : SameName a b) : goodReq a = goodReq b := by
  unfold Folds.goodReq
  simp only [bne, h.star, h.valid]
  rw [h]

theorem SameName.goodRes {a b : Bytes} (h : SameName a b) : goodRes a = goodRes b := by
  unfold Folds.goodRes
  simp only [bne, h.star, h.valid]
  rw [h]

/-- Two spellings of one method: equal after Fetch's method normalisation (`put`/`PUT`; `patch` and
`PATCH` are *different* methods). -/
def SameMethod (a b : Bytes) : Prop := Methods.normalize a = Methods.normalize b

instance (a b : Bytes) : Decidable (SameMethod a b) := inferInstanceAs (Decidable (Methods.normalize a = Methods.normalize b))

theorem SameMethod.normalize (m : Bytes) : SameMethod (Methods.normalize m) m := normalize_idem m

theorem SameMethod.upper {a b : Bytes} (h : SameMethod a b) : a.upper = b.upper := by
  rw [← normalize_upper a, ← normalize_upper b, h]

theorem SameMethod.star {a b : Bytes} (h : SameMethod a b) : (a == Validate.star) = (b == Validate.star) := by
  rw [Bool.eq_iff_iff, beq_iff_eq, beq_iff_eq]
  constructor
  · intro ha; subst ha; exact upper_eq_star h.upper.symm
  · intro hb; subst hb; exact upper_eq_star h.upper

theorem SameMethod.valid {a b : Bytes} (h : SameMethod a b) : Methods.isValid a = Methods.isValid b := by
  unfold Methods.isValid
  rw [← valid_upper_eq a, ← valid_upper_eq b, h.upper]

theorem SameMethod.goodMethod {a b : Bytes} (h : SameMethod a b) : goodMethod a = goodMethod b := by
  unfold Folds.goodMethod
  simp only [bne, h.star, h.valid]
  rw [show Methods.normalize a = Methods.normalize b from h]

/-! Whether an entry raises an error depends only on what `SameName` / `SameMethod` preserve (the error itself carries
the entry as supplied, so the two errors differ): emptiness of the error list is pushed through the tests. -/

theorem SameName.reqHdrErr_nil {a b : Bytes} (h : SameName a b) : reqHdrErr a = [] ↔ reqHdrErr b = [] := by
  rw [← List.isEmpty_iff, ← List.isEmpty_iff]
  unfold reqHdrErr
  simp only [apply_ite List.isEmpty, List.isEmpty_cons, List.isEmpty_nil, h.star, h.valid]
  rw [show a.lower = b.lower from h]

theorem SameName.resHdrErr_nil {a b : Bytes} (h : SameName a b) (cred : Bool) : resHdrErr cred a = [] ↔ resHdrErr cred b = [] := by
  rw [← List.isEmpty_iff, ← List.isEmpty_iff]
  unfold resHdrErr
  simp only [apply_ite List.isEmpty, List.isEmpty_cons, List.isEmpty_nil, h.star, h.valid]
  rw [show a.lower = b.lower from h]

theorem SameMethod.methodErr_nil {a b : Bytes} (h : SameMethod a b) : methodErr a = [] ↔ methodErr b = [] := by
  rw [← List.isEmpty_iff, ← List.isEmpty_iff]
  unfold methodErr
  simp only [apply_ite List.isEmpty, List.isEmpty_cons, List.isEmpty_nil, h.star, h.valid]
  rw [show Methods.normalize a = Methods.normalize b from h]

end Cors
