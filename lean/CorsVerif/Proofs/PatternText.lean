import CorsVerif.Proofs.Render
import CorsVerif.Proofs.Pattern
/-
  The text of an accepted pattern: what `fastParseHost`, `parseHostPattern` and the port readers consumed, as text
  (`portText` for the port), and from them the pattern string in terms of the pattern's parts (`ParsedAs.text`);
  hence a host value with a colon stood in brackets and passed the IPv6 check (`ParsedAs.ip6`).
-/
namespace Cors
open Gen Pat

namespace RoundTrip

/-- A byte of the host value of a pattern: a host byte, or the `*` of `*.`. -/
def isValueByte (b : Nat) : Bool := b == 42 || Lex.isHostByte b

theorem valueBytes_of_host {v : Bytes} (h : v.all Lex.isHostByte = true) : v.all isValueByte = true :=
  List.all_eq_true.mpr fun b hb => by rw [isValueByte, List.all_eq_true.mp h b hb, Bool.or_true]

theorem valueBytes_no_colon {v : Bytes} (h : v.all isValueByte = true) : (58 : Nat) ∉ v :=
  Bytes.not_mem_of_all h (by decide)

/-- The class spelt out, as the statements of C13 give it. -/
theorem valueBytes_class {v : Bytes} (h : v.all isValueByte = true) :
    ∀ b ∈ v, b = 42 ∨ b = Facts.origins_labelSep ∨ Lex.isDigit b = true ∨ Lex.isASCIILabelByte b = true := fun b hb => by
  simpa [isValueByte, Lex.isHostByte, or_assoc] using List.all_eq_true.mp h b hb

theorem fastParseHost_cases {str : Bytes} {host : Host} {rest : Bytes}
    (h : Lex.fastParseHost str = some (host, rest)) :
    (str = 91 :: host.value ++ 93 :: rest ∧ host.assumeIP = true) ∨
    (str = host.value ++ rest ∧ (58 : Nat) ∉ host.value ∧
      ∀ b ∈ host.value, b = Facts.origins_labelSep ∨ Lex.isDigit b = true ∨ Lex.isASCIILabelByte b = true) :=
  (Lex.fastParseHost_cases h).imp id fun hs => ⟨hs.eq, Bytes.not_mem_of_all hs.bytes (by decide), fun b hb => by
    simpa [Lex.isHostByte, or_assoc] using List.all_eq_true.mp hs.bytes b hb⟩

theorem hostPattern_text {ext : Ext} {str value rest : Bytes} {kind : Kind}
    (h : parseHostPattern ext str = .ok (value, kind, rest)) :
    (str = value ++ rest ∧ value.all isValueByte = true) ∨
    (str = 91 :: value ++ 93 :: rest ∧
      ∃ lb, ipVerdict ext value = .ok lb ∧ kind = if lb then .loopbackIP else .nonLoopbackIP) := by
  have plain : ∀ {s v : Bytes}, Lex.HostSpan s v rest → s = v ++ rest ∧ v.all isValueByte = true :=
    fun hs => ⟨hs.eq, valueBytes_of_host hs.bytes⟩
  cases parseHostPattern_eq_ok.mp h with
  | ip _ hf hv =>
    rcases Lex.fastParseHost_cases hf with ⟨hs, _⟩ | hs
    · exact Or.inr ⟨hs, _, hv, rfl⟩
    · exact Or.inl (plain hs)
  | domain _ hf _ => exact Or.inl (plain (Lex.fastParseHost_span hf))
  | wild hf _ _ =>
    obtain ⟨hs, hcl⟩ := plain (Lex.fastParseHost_span hf)
    exact Or.inl ⟨by rw [hs]; rfl, by rw [List.all_cons, List.all_cons, hcl]; rfl⟩

theorem parseHostPattern_split {ext : Ext} {str value rest : Bytes} {kind : Kind}
    (h : parseHostPattern ext str = .ok (value, kind, rest)) :
    (str = value ++ rest ∧ (58 : Nat) ∉ value ∧
      ∀ b ∈ value, b = 42 ∨ b = Facts.origins_labelSep ∨ Lex.isDigit b = true ∨ Lex.isASCIILabelByte b = true) ∨
    (kind ≠ .subdomains ∧ str = 91 :: value ++ 93 :: rest) :=
  (hostPattern_text h).imp (fun ⟨hs, hv⟩ => ⟨hs, valueBytes_no_colon hv, valueBytes_class hv⟩)
    fun ⟨hs, lb, _, hk⟩ => ⟨by rw [hk]; cases lb <;> simp, hs⟩

theorem isDigit_lt {c : Nat} (h : Lex.isDigit c = true) : c < 128 := by
  simp only [Lex.isDigit_eq, Spec.isDigit, Bool.and_eq_true, decide_eq_true_eq] at h; omega

theorem parsePort_inv {ds : Bytes} {n : Nat} (h : Lex.parsePort ds = some (n, [])) :
    ds = Bytes.itoa n ∧ 1 ≤ n ∧ n ≤ 65535 := by
  obtain ⟨ds', hds, ⟨hall, hne, hz, _⟩, rfl, hle⟩ := Lex.parsePort_some h
  obtain rfl : ds = ds' := by rw [hds, List.append_nil]
  obtain ⟨h1, h2⟩ := Bytes.itoa_digitsValue ds hall hne hz
  exact ⟨h1.symm, h2, hle⟩

theorem cutPrefix_some {s p r : Bytes} (h : Bytes.cutPrefix s p = some r) : s = p ++ r := Bytes.cutPrefix_eq_some.mp h

theorem parsePortPattern_inv {r : Bytes} {port : Nat} (h : parsePortPattern r = some (port, [])) :
    (r = [42] ∧ port = 65536) ∨ (r = Bytes.itoa port ∧ 1 ≤ port ∧ port ≤ 65535) :=
  (parsePortPattern_some h).imp id parsePort_inv

/-- How a port is written behind the host, in a pattern and by `Elems`. -/
def portText (port : Nat) : Bytes :=
  if port = 0 then [] else if port = 65536 then [58, 42] else 58 :: Bytes.itoa port

theorem portText_of_parsed {rest3 : Bytes} {port : Nat}
    (h : (rest3 = [] ∧ port = 0) ∨ (∃ rest4, rest3.cutPrefix [Facts.origins_hostPortSep] = some rest4 ∧ parsePortPattern rest4 = some (port, []))) :
    rest3 = portText port := by
  unfold portText
  rcases h with ⟨rfl, rfl⟩ | ⟨rest4, hc4, hpp⟩
  · rfl
  · rw [Bytes.cutPrefix_eq_some.mp hc4]
    rcases parsePortPattern_inv hpp with ⟨rfl, rfl⟩ | ⟨rfl, hp1, hp2⟩
    · rfl
    · rw [if_neg (by omega), if_neg (by omega)]; rfl

theorem _root_.Cors.ParsedAs.text {ext : Ext} {s : Bytes} {p : Pattern} (h : ParsedAs ext s p) :
    (s = p.scheme ++ Facts.origins_schemeHostSep ++ p.value ++ portText p.port ∧ p.value.all isValueByte = true) ∨
    (s = p.scheme ++ Facts.origins_schemeHostSep ++ 91 :: p.value ++ 93 :: portText p.port ∧
      ∃ lb, ipVerdict ext p.value = .ok lb ∧ p.kind = if lb then .loopbackIP else .nonLoopbackIP) := by
  obtain ⟨rest, hps, rest2, hcp, rest3, hhp, hport⟩ := h.scheme
  have hs : s = p.scheme ++ Facts.origins_schemeHostSep ++ rest2 := by
    rw [List.append_assoc, ← Bytes.cutPrefix_eq_some.mp hcp]
    exact (Lex.parseScheme_some hps).1
  rw [portText_of_parsed hport] at hhp
  rcases hostPattern_text hhp with ⟨hstr, h2⟩ | ⟨hstr, h2⟩
  · exact Or.inl ⟨by rw [hs, hstr]; simp, h2⟩
  · exact Or.inr ⟨by rw [hs, hstr]; simp, h2⟩

/-- A value with a colon stood in brackets (no host byte is a colon), so it passed the address check.  The kind is a
conclusion, not a hypothesis. -/
theorem _root_.Cors.ParsedAs.ip6 {ext : Ext} {s : Bytes} {p : Pattern} (h : ParsedAs ext s p) (h6 : firstIPMark p.value = some 58) :
    ∃ info, ext.ip6 p.value = some info ∧ info.zone = false ∧ info.is4in6 = false ∧ info.canon = p.value ∧
      p.kind = if info.loopback then .loopbackIP else .nonLoopbackIP := by
  obtain ⟨lb, hv, hk⟩ := (h.text.resolve_left fun ht => valueBytes_no_colon ht.2 (firstIPMark_mem h6)).2
  rcases ipVerdict_eq_ok.mp hv with ⟨h4, _⟩ | ⟨_, info, hi, hz, h46, hc, rfl⟩
  · rw [h6] at h4; cases h4
  · exact ⟨info, hi, hz, h46, hc, hk⟩

end RoundTrip
end Cors
