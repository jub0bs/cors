import CorsVerif.Spec.ACRH
import CorsVerif.Proofs.Order
import CorsVerif.Proofs.Bytes
/-
  `headers.Check` is the specification `Spec.approved` (`check_eq_approved`, which is C14): trimming,
  the windowed comma cut, positions in the sorted set, and a line as a fold over its elements.
-/
namespace Cors
open Gen Headers

namespace ACRH
open Spec (dropOneOWS)

theorem dropOne_nil : dropOneOWS [] = [] := rfl
theorem dropOne_ows {b : Nat} (t : Bytes) (h : isOWS b = true) : dropOneOWS (b :: t) = t := by
  simp [dropOneOWS, h]
theorem dropOne_not {b : Nat} (t : Bytes) (h : isOWS b = false) : dropOneOWS (b :: t) = b :: t := by
  simp [dropOneOWS, h]

theorem trimLeft_one (s : Bytes) :
    trimLeftAux 1 s 0 =
      if (dropOneOWS s).head?.any isOWS then (if (dropOneOWS s).length = 1 then some [] else none)
      else some (dropOneOWS s) := by
  cases s with
  | nil => simp [trimLeftAux, dropOneOWS]
  | cons b t =>
    by_cases hb : isOWS b = true
    · cases t with
      | nil => simp [trimLeftAux, dropOneOWS, hb]
      | cons c u =>
        by_cases hc : isOWS c = true
        · cases u with
          | nil => simp [trimLeftAux, dropOneOWS, hb, hc]
          | cons d v => simp [trimLeftAux, dropOneOWS, hb, hc]
        · simp [trimLeftAux, dropOneOWS, hb, hc]
    · simp [trimLeftAux, dropOneOWS, hb]

theorem dropOne_getLast (s : Bytes) (h : dropOneOWS s ≠ []) : (dropOneOWS s).getLast? = s.getLast? := by
  cases s with
  | nil => exact absurd dropOne_nil h
  | cons b t =>
    cases hb : isOWS b with
    | true =>
      rw [dropOne_ows t hb] at h ⊢
      cases t with
      | nil => exact absurd rfl h
      | cons c u => simp [List.getLast?_cons_cons]
    | false => rw [dropOne_not t hb]

theorem dropOne_decomp (s : Bytes) : ∃ pre, s = pre ++ dropOneOWS s ∧ (pre = [] ∨ ∃ b, isOWS b = true ∧ pre = [b]) := by
  cases s with
  | nil => exact ⟨[], rfl, Or.inl rfl⟩
  | cons b t =>
    by_cases hb : isOWS b = true
    · exact ⟨[b], by simp [dropOneOWS, hb], Or.inr ⟨b, hb, rfl⟩⟩
    · exact ⟨[], by simp [dropOneOWS, hb], Or.inl rfl⟩

theorem dropOne_length (s : Bytes) : s.length ≤ (dropOneOWS s).length + 1 := by
  obtain ⟨pre, h, hp⟩ := dropOne_decomp s
  have := congrArg List.length h
  rcases hp with rfl | ⟨_, _, rfl⟩ <;> simp at this <;> omega

theorem dropOne_ne_nil {s : Bytes} (h : 2 ≤ s.length) : dropOneOWS s ≠ [] := fun h0 => by
  have := dropOne_length s
  rw [h0, List.length_nil] at this
  omega

theorem trimOWS_eq_elem (e : Bytes) : trimOWS e Facts.headers_MaxOWSBytes = Spec.elem e := by
  show trimOWS e 1 = _
  unfold trimOWS trimRightOWS trimLeftOWS Spec.elem
  cases he : e.isEmpty with
  | true => rw [List.isEmpty_iff.mp he]; rfl
  | false =>
    simp only [Bool.false_eq_true, if_false]
    rw [trimLeft_one e.reverse]
    generalize dropOneOWS e.reverse = r
    -- where `dropOneOWS r.reverse`, the result, is not empty it ends as `r.reverse` does: with the head of `r`
    have hlast : dropOneOWS r.reverse ≠ [] → (dropOneOWS r.reverse).getLast? = r.head? := fun h => by
      rw [dropOne_getLast _ h, List.getLast?_reverse]
    cases h1 : r.head?.any isOWS with
    | true =>
      simp only [if_true]
      by_cases h2 : r.length = 1
      · -- two OWS bytes and nothing else: trimmed to the empty element
        obtain ⟨c, rfl⟩ := List.length_eq_one_iff.mp h2
        have hc : isOWS c = true := by simpa using h1
        simp [trimLeftAux, dropOne_ows [] hc]
      · -- two OWS bytes at the end of something longer: refused
        have hpos := List.length_pos_iff.mpr (show r ≠ [] by rintro rfl; cases h1)
        simp [h2, hlast (dropOne_ne_nil (by rw [List.length_reverse]; omega)), h1]
    | false =>
      simp only [Bool.false_eq_true, if_false, Option.map_some]
      rw [trimLeft_one]
      -- at most one OWS byte at the end
      have hl : (dropOneOWS r.reverse).getLast?.any isOWS = false := by
        by_cases hne : dropOneOWS r.reverse = []
        · rw [hne]; rfl
        · rw [hlast hne, h1]
      cases h3 : (dropOneOWS r.reverse).head?.any isOWS with
      | false => simp [hl]
      | true =>
        have : (dropOneOWS r.reverse).length ≠ 1 := fun h => by
          obtain ⟨c, hc⟩ := List.length_eq_one_iff.mp h
          rw [hc] at h3 hl
          cases hl.symm.trans h3
        simp [this]

theorem cutAtComma_in {e rest : Bytes} {n : Nat} (h : comma ∉ e) (hn : e.length < n) :
    cutAtComma (e ++ comma :: rest) n = (e, rest, true) := by
  obtain ⟨k, rfl⟩ : ∃ k, n = e.length + (k + 1) := ⟨n - e.length - 1, by omega⟩
  unfold cutAtComma
  rw [List.take_length_add_append, List.take_succ_cons, Bytes.cutAt_append h]
  simp

theorem cutAtComma_out {l : Bytes} {n : Nat} (h : comma ∉ l.take n) : cutAtComma l n = (l, [], false) := by
  unfold cutAtComma
  rw [Bytes.cutAt_eq_none.mpr h]

/-- What `Check` does with one list element, given the state between elements. -/
def stepElem (set : SortedSet) (st : CkState) (e : Bytes) : Option CkState :=
  match Spec.elem e with
  | none => none
  | some name =>
    if name.isEmpty then
      if st.empties + 1 > Facts.headers_MaxEmptyElements then none else some { st with empties := st.empties + 1 }
    else
      match set.indexAfter st.start name with
      | none => none
      | some i => some { st with start := i + 1 }

def foldElems (set : SortedSet) : List Bytes → CkState → Option CkState
  | [], st => some st
  | e :: es, st =>
    match stepElem set st e with
    | none => none
    | some st' => foldElems set es st'

theorem foldElems_append (set : SortedSet) (xs ys : List Bytes) (st : CkState) :
    foldElems set (xs ++ ys) st =
      match foldElems set xs st with
      | none => none
      | some st' => foldElems set ys st' := by
  induction xs generalizing st with
  | nil => rfl
  | cons x xs ih =>
    simp only [List.cons_append, foldElems]
    cases stepElem set st x with
    | none => rfl
    | some st' => exact ih st'

theorem elem_decomp {e t : Bytes} (h : Spec.elem e = some t) :
    ∃ pre suf, e = pre ++ t ++ suf ∧ (pre = [] ∨ ∃ b, isOWS b = true ∧ pre = [b]) ∧
      (suf = [] ∨ ∃ b, isOWS b = true ∧ suf = [b]) ∧ t.head?.any isOWS = false ∧ t.getLast?.any isOWS = false := by
  unfold Spec.elem at h
  simp only [] at h
  split at h
  · cases h
  · rename_i hc
    simp only [Option.some.injEq] at h
    simp only [Bool.or_eq_true, not_or, Bool.not_eq_true] at hc
    obtain ⟨p1, h1, hp1⟩ := dropOne_decomp e.reverse
    obtain ⟨p2, h2, hp2⟩ := dropOne_decomp (dropOneOWS e.reverse).reverse
    rw [h] at h2
    refine ⟨p2, p1.reverse, ?_, hp2, ?_, by rw [← h]; exact hc.1, by rw [← h]; exact hc.2⟩
    · have := congrArg List.reverse h1
      rw [List.reverse_reverse, List.reverse_append, h2] at this
      rw [this]
    · rcases hp1 with rfl | ⟨b, hb, rfl⟩
      · exact Or.inl rfl
      · exact Or.inr ⟨b, hb, rfl⟩

theorem elem_length {e name : Bytes} (h : Spec.elem e = some name) : e.length ≤ name.length + 2 := by
  obtain ⟨pre, suf, rfl, hp, hs, _⟩ := elem_decomp h
  rcases hp with rfl | ⟨_, _, rfl⟩ <;> rcases hs with rfl | ⟨_, _, rfl⟩ <;> simp <;> omega

theorem stepElem_long (set : SortedSet) (st : CkState) (e : Bytes) (h : set.maxLen + 3 ≤ e.length) :
    stepElem set st e = none := by
  unfold stepElem
  cases he : Spec.elem e with
  | none => rfl
  | some name =>
    have hl := elem_length he
    have hne : name.isEmpty = false := by
      cases name with
      | nil => simp at hl; omega
      | cons _ _ => rfl
    simp only [hne, Bool.false_eq_true, if_false]
    have : set.indexAfter st.start name = none := by
      unfold SortedSet.indexAfter
      rw [if_pos (by omega)]
    rw [this]

theorem checkLine_unfold (set : SortedSet) (maxLen fuel : Nat) (acrh : Bytes) (st : CkState) :
    checkLine set maxLen (fuel + 1) acrh st =
      match stepElem set st (cutAtComma acrh maxLen).1 with
      | none => none
      | some st' =>
        if (cutAtComma acrh maxLen).2.2 then checkLine set maxLen fuel (cutAtComma acrh maxLen).2.1 st' else some st' := by
  rw [checkLine]
  obtain ⟨name, rest, found⟩ := cutAtComma acrh maxLen
  simp only [trimOWS_eq_elem, stepElem]
  cases Spec.elem name with
  | none => rfl
  | some nm =>
    simp only []
    cases hne : nm.isEmpty with
    | true =>
      simp only [if_true]
      split
      · rfl
      · cases found <;> simp
    | false =>
      simp only [Bool.false_eq_true, if_false]
      cases set.indexAfter st.start nm with
      | none => rfl
      | some i => cases found <;> simp

/-- The window `maxLen + 3` is `MaxOWSBytes + set.MaxLen() + MaxOWSBytes + 1` of `Check`: the longest
allowed name, one OWS byte on each side, the comma. -/
theorem checkLine_eq (set : SortedSet) (fuel : Nat) (l : Bytes) (st : CkState) (hf : l.length < fuel) :
    checkLine set (set.maxLen + 3) fuel l st = foldElems set (Bytes.splitOn comma l) st := by
  induction fuel generalizing l st with
  | zero => omega
  | succ fuel ih =>
    rw [checkLine_unfold]
    cases hc : Bytes.cutAt comma l with
    | none =>
      have hno : comma ∉ l := Bytes.cutAt_eq_none.mp hc
      rw [cutAtComma_out (fun h => hno (List.mem_of_mem_take h)), Bytes.splitOn_of_not_mem hno]
      simp only [foldElems]
      cases stepElem set st l <;> simp
    | some p =>
      obtain ⟨e, rest⟩ := p
      obtain ⟨hl, hno⟩ := Bytes.cutAt_some hc
      subst hl
      rw [Bytes.splitOn_append hno]
      simp only [foldElems]
      by_cases hlen : e.length < set.maxLen + 3
      · rw [cutAtComma_in hno hlen]
        cases stepElem set st e with
        | none => rfl
        | some st' =>
          simp only [if_true]
          apply ih
          simp only [List.length_append, List.length_cons] at hf
          omega
      · -- no comma inside the window: the whole rest of the line is taken for one (too long) element
        have hwin : comma ∉ (e ++ comma :: rest).take (set.maxLen + 3) := by
          rw [List.take_append_of_le_length (by omega)]
          exact fun h => hno (List.mem_of_mem_take h)
        rw [cutAtComma_out hwin]
        rw [stepElem_long set st e (by omega)]
        rw [stepElem_long set st (e ++ comma :: rest) (by simp only [List.length_append, List.length_cons]; omega)]

theorem checkLines_eq (set : SortedSet) (lines : List Bytes) (st : CkState) :
    checkLines set (set.maxLen + 3) lines st = (foldElems set (Spec.elements lines) st).isSome := by
  induction lines generalizing st with
  | nil => simp [checkLines, Spec.elements, foldElems]
  | cons l ls ih =>
    simp only [checkLines, Spec.elements, List.flatMap_cons]
    rw [checkLine_eq set _ l st (Nat.lt_succ_self _), foldElems_append]
    cases foldElems set (Bytes.splitOn comma l) st with
    | none => rfl
    | some st' => exact ih st'

theorem check_eq_fold (set : SortedSet) (lines : List Bytes) :
    Headers.check set lines = (foldElems set (Spec.elements lines) { start := 0, empties := 0 }).isSome := by
  unfold Headers.check
  have : Facts.headers_MaxOWSBytes + set.maxLen + Facts.headers_MaxOWSBytes + 1 = set.maxLen + 3 := by
    simp only [Facts.headers_MaxOWSBytes]; omega
  simp only [this]
  exact checkLines_eq set lines _

/-- The positions form a chain: each name is found after the previous one. -/
def chain : List Bytes → List Bytes → Bool
  | _, [] => true
  | E, n :: rest =>
    match SortedSet.findIdx n E with
    | none => false
    | some j => chain (E.drop (j + 1)) rest

theorem strictSorted_iff (l : List Bytes) : Spec.strictlyIncreasing l = true ↔ StrictSorted l := by
  induction l with
  | nil => simp [Spec.strictlyIncreasing, StrictSorted]
  | cons a t ih =>
    cases t with
    | nil => simp [Spec.strictlyIncreasing, StrictSorted]
    | cons b r =>
      simp only [Spec.strictlyIncreasing, Bool.and_eq_true, ih]
      unfold StrictSorted at *
      constructor
      · rintro ⟨h1, h2⟩
        refine List.Pairwise.cons ?_ h2
        intro x hx
        rcases List.mem_cons.mp hx with rfl | hx
        · exact h1
        · exact Bytes.lt_trans h1 ((List.pairwise_cons.mp h2).1 x hx)
      · intro h
        have := List.pairwise_cons.mp h
        exact ⟨this.1 b List.mem_cons_self, this.2⟩

theorem chain_iff (E : List Bytes) (hE : StrictSorted E) (ns : List Bytes) :
    chain E ns = true ↔ (∀ n ∈ ns, n ∈ E) ∧ StrictSorted ns := by
  induction ns generalizing E with
  | nil => simp [chain, StrictSorted]
  | cons n rest ih =>
    rw [chain]
    cases hf : SortedSet.findIdx n E with
    | none => simp [SortedSet.findIdx_none.mp hf]
    | some j =>
      obtain ⟨pre, post, hE', _, hdrop⟩ := SortedSet.findIdx_some hf
      subst hE'
      obtain ⟨_, hpost, hcross⟩ := List.pairwise_append.mp hE
      obtain ⟨hn, hpost⟩ := List.pairwise_cons.mp hpost
      simp only [hdrop, ih post hpost]
      constructor
      · rintro ⟨hm, hs⟩
        exact ⟨List.forall_mem_cons.mpr ⟨by simp, fun x hx => by simp [hm x hx]⟩,
          List.pairwise_cons.mpr ⟨fun x hx => hn x (hm x hx), hs⟩⟩
      · rintro ⟨hm, hs⟩
        obtain ⟨hlt, hs'⟩ := List.pairwise_cons.mp hs
        refine ⟨fun x hx => ?_, hs'⟩
        -- `x` is in `E` and above `n`, so it lies behind `n`
        rcases List.mem_append.mp (hm x (List.mem_cons_of_mem _ hx)) with hp | hp
        · have := Bytes.lt_asymm (hcross x hp n List.mem_cons_self)
          rw [hlt x hx] at this
          cases this
        · rcases List.mem_cons.mp hp with rfl | hp
          · have := hlt x hx
            rw [Bytes.lt_irrefl] at this
            cases this
          · exact hp

theorem chain_eq (E : List Bytes) (hE : StrictSorted E) (ns : List Bytes) :
    chain E ns = (ns.all (fun n => E.contains n) && Spec.strictlyIncreasing ns) := by
  rw [Bool.eq_iff_iff, chain_iff E hE]
  simp [strictSorted_iff]

theorem strictSorted_drop {l : List Bytes} (h : StrictSorted l) (k : Nat) : StrictSorted (l.drop k) :=
  List.Pairwise.sublist (List.drop_sublist k l) h

theorem foldElems_iff (set : SortedSet) (hwf : set.WF) (es : List Bytes) (st : CkState)
    (hst : st.empties ≤ Facts.headers_MaxEmptyElements) :
    (foldElems set es st).isSome =
      match Spec.names es with
      | none => false
      | some ns =>
        decide (st.empties + (ns.filter (fun n => n.isEmpty)).length ≤ Facts.headers_MaxEmptyElements)
        && chain (set.elems.drop st.start) (ns.filter (fun n => !n.isEmpty)) := by
  -- The state sits on the right as an offset: `st.empties` is added to the count, `st.start` is dropped from the set.
  -- An element is not tolerated (both sides fail), empty (one more on the count), or a name: `indexAfter_eq` finds it
  -- at `j` behind `st.start`, and the chain goes on behind `j`.
  induction es generalizing st with
  | nil => simp [foldElems, Spec.names, chain, hst]
  | cons e es ih =>
    simp only [foldElems, Spec.names, stepElem]
    cases he : Spec.elem e with
    | none => rfl
    | some name =>
      simp only []
      cases hne : name.isEmpty with
      | true =>
        simp only [if_true]
        by_cases hover : st.empties + 1 > Facts.headers_MaxEmptyElements
        · rw [if_pos hover]
          cases Spec.names es with
          | none => rfl
          | some ns =>
            simp only [List.filter_cons, hne, if_true, List.length_cons, Option.isSome_none]
            have : ¬ (st.empties + ((ns.filter fun n => n.isEmpty).length + 1) ≤ Facts.headers_MaxEmptyElements) := by omega
            simp [this]
        · rw [if_neg hover]
          rw [ih _ (by simp only []; omega)]
          cases Spec.names es with
          | none => rfl
          | some ns =>
            simp only [List.filter_cons, hne, if_true, List.length_cons, Bool.not_true, Bool.false_eq_true, if_false]
            have : (st.empties + 1 + (ns.filter fun n => n.isEmpty).length ≤ Facts.headers_MaxEmptyElements) ↔
                (st.empties + ((ns.filter fun n => n.isEmpty).length + 1) ≤ Facts.headers_MaxEmptyElements) := by omega
            simp only [this]
      | false =>
        simp only [Bool.false_eq_true, if_false]
        rw [SortedSet.indexAfter_eq set hwf]
        cases hf : SortedSet.findIdx name (set.elems.drop st.start) with
        | none =>
          cases Spec.names es with
          | none => rfl
          | some ns => simp [hne, chain, hf]
        | some j =>
          simp only [Option.map_some]
          rw [ih { start := j + st.start + 1, empties := st.empties } hst]
          cases Spec.names es with
          | none => rfl
          | some ns =>
            simp only [List.filter_cons, hne, Bool.false_eq_true, if_false, Bool.not_false, if_true, chain, hf]
            have : set.elems.drop (j + st.start + 1) = (set.elems.drop st.start).drop (j + 1) := by
              rw [List.drop_drop]; congr 1; omega
            rw [this]

/-- `set.WF` holds of every set built by `SortedSet.Add` (`SortedSet.add_wf`). -/
theorem check_eq_approved (set : SortedSet) (hwf : set.WF) (lines : List Bytes) :
    Headers.check set lines = Spec.approved Facts.headers_MaxEmptyElements set.elems lines := by
  rw [check_eq_fold, foldElems_iff set hwf _ _ (Nat.zero_le _)]
  unfold Spec.approved
  cases Spec.names (Spec.elements lines) with
  | none => rfl
  | some ns =>
    simp only [Nat.zero_add, List.drop_zero]
    rw [chain_eq set.elems hwf.sorted, Bool.and_assoc]

theorem elem_plain (e : Bytes) (h : ∀ b ∈ e, isOWS b = false) : Spec.elem e = some e := by
  have hD : ∀ s : Bytes, (∀ b ∈ s, isOWS b = false) → Spec.dropOneOWS s = s := by
    intro s hs
    cases s with
    | nil => rfl
    | cons b t => simp [Spec.dropOneOWS, hs b List.mem_cons_self]
  unfold Spec.elem
  have h1 : Spec.dropOneOWS e.reverse = e.reverse := hD _ (fun b hb => h b (List.mem_reverse.mp hb))
  simp only [h1, List.reverse_reverse, hD e h]
  have hh : e.head?.any isOWS = false := by
    cases e with
    | nil => rfl
    | cons b t => simp [h b List.mem_cons_self]
  have hl : e.getLast?.any isOWS = false := by
    cases hg : e.getLast? with
    | none => rfl
    | some b => simp [h b (List.mem_of_getLast? hg)]
  simp [hh, hl]

theorem names_plain (es : List Bytes) (h : ∀ e ∈ es, ∀ b ∈ e, isOWS b = false) : Spec.names es = some es := by
  induction es with
  | nil => rfl
  | cons e es ih =>
    simp only [Spec.names, elem_plain e (h e List.mem_cons_self), ih (fun e' he' => h e' (List.mem_cons_of_mem _ he'))]

end ACRH
end Cors
