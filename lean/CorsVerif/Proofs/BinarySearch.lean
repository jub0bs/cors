import CorsVerif.Proofs.IxTreeRefine
/-
  `slices.BinarySearch`, the algorithm itself.

  The model (list level and index level) treats `slices.BinarySearch(s, x)` as "the number of elements smaller
  than `x`, and whether the element at that position is `x`" (`Ix.lowerBound`, `Ix.bsearch`, `Ix.findPos`), which is
  what the library function returns *on a sorted slice*.  This file transcribes the library's loop

      n := len(x); i, j := 0, n
      for i < j { h := int(uint(i+j) >> 1); if cmp.Less(x[h], target) { i = h + 1 } else { j = h } }
      return i, i < n && x[i] == target          (the `isNaN` disjunct, for floats, left out)

  and proves what the two facts about it rest on: (a) for every slice, sorted or not, the result is a position in
  `[0, n]` and `found` implies `i < n`, so the index expressions that use it cannot go out of range whatever the slice
  holds (`bsLoop_inv`; the statement is `C01_binarySearch_range`); (b) on a slice sorted by a transitive order it returns
  exactly `Ix.bsearch` (`binarySearch_sorted/_strict`), instantiated at the edge labels and the port codes of the radix
  tree under the proved invariant `Node.Inv` (`binarySearch_edges/_ports`) and at byte strings (`binarySearch_bytes`:
  the schemes, `SortedSet.IndexAfter`).  The second half of the file repeats the index-level programs of `Tree.Contains`
  and `headers.Check` with the library loop in place of the modelled search (`findPos`, `SortedSet.findIdx`) and proves
  them equal (`*BS_eq`).
-/
namespace Cors
namespace Ix
open Gen Node

/-- The `for i < j` loop; `p y` is `cmp.Less(y, target)`.  Go's `int(uint(i+j) >> 1)` is `(i + j) / 2` but for the overflow
of `i + j` it dodges, which `Nat` does not have. -/
def bsLoop {α : Type} [Inhabited α] (p : α → Bool) (l : List α) : Nat → Nat → Nat → Nat
  | 0, i, _ => i
  | fuel + 1, i, j =>
    if i < j then
      let h := (i + j) / 2
      if p (l.getD h default) then bsLoop p l fuel (h + 1) j else bsLoop p l fuel i h
    else i

/-- `slices.BinarySearch(l, x)`. -/
def binarySearch {α : Type} [BEq α] [Inhabited α] (lt : α → α → Bool) (x : α) (l : List α) : Nat × Bool :=
  let i := bsLoop (fun y => lt y x) l (l.length + 1) 0 l.length
  (i, decide (i < l.length) && l.getD i default == x)

/-- The halving loop keeps any property of the window `[i, j)` that both of its moves keep, and ends on an empty window. -/
theorem bsLoop_inv {α : Type} [Inhabited α] (p : α → Bool) (l : List α) (I : Nat → Nat → Prop)
    (hT : ∀ i j, i < j → I i j → p (l.getD ((i + j) / 2) default) = true → I ((i + j) / 2 + 1) j)
    (hF : ∀ i j, i < j → I i j → p (l.getD ((i + j) / 2) default) = false → I i ((i + j) / 2)) :
    ∀ (fuel i j : Nat), i ≤ j → j - i < fuel → I i j → I (bsLoop p l fuel i j) (bsLoop p l fuel i j) := by
  intro fuel
  induction fuel with
  | zero => intro i j _ h; exact absurd h (Nat.not_lt_zero _)
  | succ fuel ih =>
    intro i j hij hf hI
    by_cases hlt : i < j
    · -- the midpoint lies in `[i, j)`: both moves shrink the window
      have h1 : i ≤ (i + j) / 2 := by omega
      have h2 : (i + j) / 2 < j := by omega
      generalize hm : (i + j) / 2 = m at h1 h2 hT hF
      cases hp : p (l.getD m default) with
      | true =>
        simp only [bsLoop, hlt, hm, hp, if_true]
        exact ih _ _ h2 (by omega) (hm ▸ hT i j hlt hI (hm ▸ hp))
      | false =>
        simp only [bsLoop, hlt, hm, hp, if_true, Bool.false_eq_true, if_false]
        exact ih _ _ h1 (by omega) (hm ▸ hF i j hlt hI (hm ▸ hp))
    · obtain rfl : i = j := by omega
      simp only [bsLoop, Nat.lt_irrefl, if_false]
      exact hI

theorem bsLoop_partition {α : Type} [Inhabited α] (p : α → Bool) (l : List α) (k : Nat) (hk : k ≤ l.length)
    (hlow : ∀ idx, idx < k → p (l.getD idx default) = true)
    (hhigh : ∀ idx, k ≤ idx → idx < l.length → p (l.getD idx default) = false) :
    bsLoop p l (l.length + 1) 0 l.length = k := by
  have := bsLoop_inv p l (fun i j => i ≤ k ∧ k ≤ j ∧ j ≤ l.length)
    (fun i j hlt ⟨_, h2, h3⟩ hp =>
      ⟨Nat.lt_of_not_le fun hn => by rw [hhigh _ hn (by omega)] at hp; exact Bool.noConfusion hp, h2, h3⟩)
    (fun i j hlt ⟨h1, _, h3⟩ hp =>
      ⟨h1, Nat.le_of_not_lt fun hn => by rw [hlow _ hn] at hp; exact Bool.noConfusion hp, by omega⟩)
    (l.length + 1) 0 l.length (Nat.zero_le _) (by omega) ⟨Nat.zero_le _, hk, Nat.le_refl _⟩
  omega

theorem lowerBound_low {α : Type} [Inhabited α] (lt : α → α → Bool) (x : α) (l : List α) :
    ∀ idx, idx < lowerBound lt x l → lt (l.getD idx default) x = true := by
  intro idx h
  rw [lowerBound_eq_findIdx] at h
  rw [getD_eq_getElem l idx default (Nat.lt_of_lt_of_le h List.findIdx_le_length)]
  simpa using List.not_of_lt_findIdx h

/-- `R`: the order itself for the strictly sorted edge labels and schemes, `≤` for the port lists, which may repeat a port. -/
theorem lowerBound_high {α : Type} [Inhabited α] (lt : α → α → Bool) (R : α → α → Prop) (x : α) (l : List α)
    (hmono : ∀ a b, R a b → lt b x = true → lt a x = true) (hs : l.Pairwise R) :
    ∀ idx, lowerBound lt x l ≤ idx → idx < l.length → lt (l.getD idx default) x = false := by
  intro idx hle hlen
  rw [lowerBound_eq_findIdx] at hle
  have hk := Nat.lt_of_le_of_lt hle hlen
  -- the element at the lower bound is not below `x`, and it stands in `R` to every later one
  have h0 : lt l[l.findIdx fun y => !lt y x] x = false := by simpa using List.findIdx_getElem (w := hk)
  rw [getD_eq_getElem _ _ _ hlen, Bool.eq_false_iff]
  rcases Nat.eq_or_lt_of_le hle with h | h
  · simpa [← h] using h0
  · exact fun hz => by rw [hmono _ _ (List.pairwise_iff_getElem.mp hs _ _ hk hlen h) hz] at h0; cases h0

theorem binarySearch_sorted {α : Type} [BEq α] [Inhabited α] (lt : α → α → Bool) (R : α → α → Prop) (x : α) (l : List α)
    (hmono : ∀ a b, R a b → lt b x = true → lt a x = true) (hs : l.Pairwise R) :
    binarySearch lt x l = bsearch lt x l := by
  unfold binarySearch bsearch
  simp only [bsLoop_partition (fun y => lt y x) l (lowerBound lt x l) (lowerBound_le lt x l) (lowerBound_low lt x l)
    (lowerBound_high lt R x l hmono hs)]

theorem contains_eq_findPos {α : Type} [BEq α] [LawfulBEq α] (x : α) (l : List α) : l.contains x = (findPos x l).isSome := by
  rw [findPos_eq_idxOf?, Bool.eq_iff_iff, List.contains_iff_mem, List.isSome_idxOf?]

/-- `findPos` (first position holding `x`) is the reading of `slices.BinarySearch` that `node.contains` / `Tree.Contains`
use in the index-level model: on a sorted slice it is the lower bound when the element there is `x`. -/
theorem findPos_sorted {α : Type} [BEq α] [LawfulBEq α] [Inhabited α] (lt : α → α → Bool) (R : α → α → Prop) (x : α)
    (l : List α) (hirr : lt x x = false) (hR : ∀ a, R a x → lt a x = true ∨ a = x) (hs : l.Pairwise R) :
    findPos x l = cond (bsearch lt x l).2 (some (bsearch lt x l).1) none := by
  induction l with
  | nil => rfl
  | cons y ys ih =>
    rw [List.pairwise_cons] at hs
    by_cases hyx : y = x
    · subst hyx; simp [findPos, bsearch_cons_ge, hirr]
    · have hyxf : (y == x) = false := by simpa using hyx
      cases hlt : lt y x with
      | true =>
        rw [findPos, hyxf, if_neg Bool.false_ne_true, ih hs.2, bsearch_cons_lt _ _ _ hlt]
        cases (bsearch lt x ys).2 <;> rfl
      | false =>
        have hnm : findPos x ys = none := by
          cases hc : ys.contains x with
          | false => rw [contains_eq_findPos] at hc; simpa using hc
          | true =>
            rcases hR y (hs.1 x (by simpa using hc)) with h | h
            · rw [h] at hlt; cases hlt
            · exact absurd h hyx
        simp [findPos, hyxf, hnm, bsearch_cons_ge, hlt]

theorem binarySearch_strict {α : Type} [BEq α] [LawfulBEq α] [Inhabited α] (lt : α → α → Bool) (x : α) (l : List α)
    (htrans : ∀ a b c, lt a b = true → lt b c = true → lt a c = true) (hirr : ∀ a, lt a a = false)
    (hs : l.Pairwise (fun a b => lt a b = true)) :
    binarySearch lt x l = bsearch lt x l ∧ findPos x l = cond (bsearch lt x l).2 (some (bsearch lt x l).1) none :=
  ⟨binarySearch_sorted lt _ x l (fun a b => htrans a b x) hs, findPos_sorted lt _ x l (hirr x) (fun _ h => Or.inl h) hs⟩

theorem natLt_trans (a b c : Nat) (h1 : natLt a b = true) (h2 : natLt b c = true) : natLt a c = true := by
  unfold natLt at *; simp only [decide_eq_true_eq] at *; omega
theorem intLt_trans (a b c : Int) (h1 : intLt a b = true) (h2 : intLt b c = true) : intLt a c = true := by
  unfold intLt at *; simp only [decide_eq_true_eq] at *; omega

theorem edges_sorted (K : List (Nat × Node)) (h : KidsInv K) : (K.map Prod.fst).Pairwise (fun a b => natLt a b = true) :=
  List.pairwise_map.mpr ((KidsInv_iff.mp h).1.imp (by simp [natLt]))

theorem binarySearch_bytes (x : Bytes) (l : List Bytes) (hs : l.Pairwise (fun a b => Bytes.lt a b = true)) :
    binarySearch Bytes.lt x l = bsearch Bytes.lt x l ∧
    findPos x l = cond (bsearch Bytes.lt x l).2 (some (bsearch Bytes.lt x l).1) none :=
  binarySearch_strict Bytes.lt x l (fun _ _ _ h1 h2 => Bytes.lt_trans h1 h2) Bytes.lt_irrefl hs

/-- `slices.BinarySearch(n.edges, label)` under the tree invariant. -/
theorem binarySearch_edges (n : Node) (h : Inv n) (label : Nat) :
    binarySearch natLt label (n.kids.map Prod.fst) = bsearch natLt label (n.kids.map Prod.fst) ∧
    findPos label (n.kids.map Prod.fst) =
      cond (bsearch natLt label (n.kids.map Prod.fst)).2 (some (bsearch natLt label (n.kids.map Prod.fst)).1) none := by
  obtain ⟨suf, S, K⟩ := n
  exact binarySearch_strict natLt label _ natLt_trans (by intro a; simp [natLt]) (edges_sorted K (Inv_mk.mp h).2)

/-- `slices.BinarySearch(ports, port)` on a port list sorted by `≤` (duplicates allowed); `found` is membership, which is
what `node.contains` is modelled with (`ports.contains`). -/
theorem binarySearch_ports (ports : List Int) (hs : SortedInts ports) (port : Int) :
    binarySearch intLt port ports = bsearch intLt port ports ∧ (bsearch intLt port ports).2 = ports.contains port := by
  refine ⟨binarySearch_sorted intLt (· ≤ ·) port ports (by simp only [intLt, decide_eq_true_eq]; omega) hs, ?_⟩
  rw [contains_eq_findPos, findPos_sorted intLt (· ≤ ·) port ports (by simp [intLt])
    (by simp only [intLt, decide_eq_true_eq]; omega) hs]
  cases (bsearch intLt port ports).2 <;> rfl

/-- `Sub n m`: `m` is `n` or one of its descendants. -/
inductive Sub : Node → Node → Prop where
  | refl (n : Node) : Sub n n
  | kid {n c m : Node} {l : Nat} (h : (l, c) ∈ n.kids) (hs : Sub c m) : Sub n m

theorem Inv_sub {n m : Node} (h : Inv n) (hs : Sub n m) : Inv m := by
  induction hs with
  | refl => exact h
  | @kid n c m l hmem _ ih =>
    cases n with
    | mk suf S K => exact ih (KidsInv_all (Inv_mk.mp h).2 hmem).2

theorem SchemesOK_ports_mem {S : List (Bytes × List Int)} (h : SchemesOK S) (i : Nat) (hi : i < S.length) :
    SortedInts ((S.map Prod.snd).getD i default) := by
  rw [getD_map' Prod.snd S i default default hi]
  exact (h.ports _ (getD_mem S i default hi)).sorted

/-! ### `Tree.Contains` with the library's binary search in it -/

/-- `node.contains` with `slices.BinarySearch` spelled out (three searches). -/
def nodeContainsBS (schemes : List (Bytes × List Int)) (scheme : Bytes) (port : Int) (wild : Bool) : Chk Bool :=
  let r := binarySearch Bytes.lt scheme (schemes.map Prod.fst)     -- i, found := slices.BinarySearch(n.schemes, scheme)
  if !r.2 then pure false
  else do
    let ports ← idxG (schemes.map Prod.snd) r.1                     -- ports := n.ports[i]
    if (binarySearch intLt (Node.code port wild) ports).2 then pure true     -- _, found = slices.BinarySearch(ports, port)
    else pure (binarySearch intLt (Node.wildCode wild) ports).2              -- _, found = slices.BinarySearch(ports, wildcardPort)

theorem nodeContainsBS_eq (S : List (Bytes × List Int)) (hS : SchemesOK S) (scheme : Bytes) (port : Int) (wild : Bool) :
    nodeContainsBS S scheme port wild = nodeContains S scheme port wild := by
  -- both sides in terms of `bsearch` on the strictly sorted schemes: the library loop by `hb`, `findPos` by `hf`;
  -- where it finds the scheme, each of the two port searches is membership (`binarySearch_ports`)
  obtain ⟨hb, hf⟩ := binarySearch_bytes scheme (S.map Prod.fst) hS.keys
  unfold nodeContainsBS nodeContains
  rw [hb, hf]
  cases hfound : (bsearch Bytes.lt scheme (S.map Prod.fst)).2 with
  | false => simp only [hfound, Bool.not_false, if_true, cond_false]
  | true =>
    have hlt := (bsearch_found hfound).1
    have hsorted := SchemesOK_ports_mem hS _ hlt
    have h1 := binarySearch_ports _ hsorted (Node.code port wild)
    have h2 := binarySearch_ports _ hsorted (Node.wildCode wild)
    simp only [hfound, bsearch_fst, Bool.not_true, Bool.false_eq_true, if_false, cond_true, idxG_ok, List.length_map, hlt,
      ok_bind, h1.1, h1.2, h2.1, h2.2]
    cases ((S.map Prod.snd).getD (lowerBound Bytes.lt scheme (S.map Prod.fst)) default).contains (code port wild) <;> simp

/-- The `for` of `Tree.Contains` with `slices.BinarySearch` spelled out. -/
def treeLoopBS : Nat → Node → Bytes → Bytes → Int → Chk Bool
  | 0, _, _, _, _ => .error ()
  | fuel + 1, n, host, scheme, port => do
    match ← lastByte host with
    | none => nodeContainsBS n.schemes scheme port false
    | some label =>
      if ← nodeContainsBS n.schemes scheme port true then return true
      let r := binarySearch natLt label (n.kids.map Prod.fst)      -- i, found := slices.BinarySearch(n.edges, label)
      if !r.2 then return false
      let c ← idxG (n.kids.map Prod.snd) r.1                       -- n = &n.children[i]
      let (prefixOfHost, _, suf) ← splitAtCommonSuffix host c.suf.reverse
      if suf.length != c.suf.length then return false
      treeLoopBS fuel c prefixOfHost scheme port

theorem treeLoopBS_eq : ∀ (fuel : Nat) (n : Node) (host scheme : Bytes) (port : Int), Inv n →
    treeLoopBS fuel n host scheme port = treeLoop fuel n host scheme port := by
  intro fuel
  induction fuel with
  | zero => intro n host scheme port _; rfl
  | succ fuel ih =>
    intro n host scheme port hinv
    -- as in `nodeContainsBS_eq`, at the edge labels (`hb`); the child found satisfies the invariant, so `ih` applies to it
    have hb := binarySearch_edges n hinv
    obtain ⟨nsuf, S, K⟩ := n
    obtain ⟨hS, hK⟩ := Inv_mk.mp hinv
    simp only [treeLoopBS, treeLoop, Node.schemes, Node.kids, nodeContainsBS_eq S hS, lastByte_refines, nodeContains_refines,
      ok_bind] at hb ⊢
    cases host.getLast? with
    | none => rfl
    | some label =>
      simp only [(hb label).1, (hb label).2]
      cases containsPort S scheme port true with
      | true => rfl
      | false =>
        simp only [Bool.false_eq_true, if_false]
        cases hfound : (bsearch natLt label (K.map Prod.fst)).2 with
        | false => rfl
        | true =>
          have hlt := (bsearch_found hfound).1
          have hcinv : Inv ((K.map Prod.snd).getD (lowerBound natLt label (K.map Prod.fst)) default) := by
            rw [getD_map' Prod.snd K _ default default hlt]
            exact (KidsInv_all hK (getD_mem K _ default hlt)).2
          simp only [bsearch_fst, Bool.not_true, Bool.false_eq_true, if_false, cond_true, idxG_ok, List.length_map,
            hlt, ok_bind, ih _ _ _ _ hcinv]

def treeContainsBS (t : Node) (o : Origin) : Chk Bool :=
  treeLoopBS (depth t + 1) t o.host.value o.scheme o.port

/-! ### `headers.Check` with the library's binary search in it -/

/-- `SortedSet.IndexAfter` with `slices.BinarySearch` spelled out. -/
def indexAfterBS (set : SortedSet) (n : Int) (e : Bytes) : Chk (Option Int) := do
  if set.maxLen < e.length then return none
  let start := n + 1
  let tail ← sliceG set.elems start (lenG set.elems)         -- set.elems[start:]
  let r := binarySearch Bytes.lt e tail                       -- i, found := slices.BinarySearch(set.elems[start:], e)
  if !r.2 then return none
  return some (start + r.1)

theorem indexAfterBS_eq (set : SortedSet) (h : set.WF) (n : Int) (e : Bytes) : indexAfterBS set n e = indexAfter set n e := by
  unfold indexAfterBS indexAfter
  by_cases hm : set.maxLen < e.length
  · simp [hm]
  · simp only [hm, if_false, bind, Except.bind]
    cases hs : sliceG set.elems (n + 1) (lenG set.elems) with
    | error u => rfl
    | ok tail =>
      have hsub : tail.Pairwise (fun a b => Bytes.lt a b = true) := by
        unfold sliceG at hs
        split at hs
        · simp only [Except.ok.injEq] at hs
          rw [← hs]
          exact List.Pairwise.sublist ((List.drop_sublist _ _).trans (List.take_sublist _ _)) h.sorted
        · cases hs
      obtain ⟨hb, hf⟩ := binarySearch_bytes e tail hsub
      simp only [hb, findIdx_eq_findPos, hf]
      cases (bsearch Bytes.lt e tail).2 <;> rfl

def checkLineBS (set : SortedSet) (maxLen : Nat) : Nat → Bytes → Int × Nat → Chk (Option (Int × Nat))
  | 0, _, _ => .error ()
  | fuel + 1, acrh, (pos, empties) => do
    let (name, rest, commaFound) ← cutAtComma acrh maxLen
    match ← trimOWS name Facts.headers_MaxOWSBytes with
    | none => return none
    | some name =>
      if name.isEmpty then
        let e := empties + 1
        if e > Facts.headers_MaxEmptyElements then return none
        else if !commaFound then return some (pos, e)
        else checkLineBS set maxLen fuel rest (pos, e)
      else
        match ← indexAfterBS set pos name with
        | none => return none
        | some i =>
          if !commaFound then return some (i, empties)
          else checkLineBS set maxLen fuel rest (i, empties)

theorem checkLineBS_eq (set : SortedSet) (h : set.WF) (maxLen : Nat) :
    ∀ (fuel : Nat) (acrh : Bytes) (st : Int × Nat), checkLineBS set maxLen fuel acrh st = checkLine set maxLen fuel acrh st := by
  intro fuel
  induction fuel with
  | zero => intro acrh st; rfl
  | succ fuel ih =>
    intro acrh st
    simp only [checkLineBS, checkLine, indexAfterBS_eq set h, ih]
    rfl

def checkLinesBS (set : SortedSet) (maxLen : Nat) : List Bytes → Int × Nat → Chk Bool
  | [], _ => pure true
  | l :: ls, st => do
    match ← checkLineBS set maxLen (l.length + 1) l st with
    | none => return false
    | some st' => checkLinesBS set maxLen ls st'

theorem checkLinesBS_eq (set : SortedSet) (h : set.WF) (maxLen : Nat) :
    ∀ (lines : List Bytes) (st : Int × Nat), checkLinesBS set maxLen lines st = checkLines set maxLen lines st := by
  intro lines
  induction lines with
  | nil => intro st; rfl
  | cons l ls ih => intro st; simp only [checkLinesBS, checkLines, checkLineBS_eq set h, ih]; rfl

/-- `headers.Check` with every index expression checked and every `slices.BinarySearch` run as the library's loop. -/
def checkBS (set : SortedSet) (acrhs : List Bytes) : Chk Bool :=
  let maxLen := Facts.headers_MaxOWSBytes + set.maxLen + Facts.headers_MaxOWSBytes + 1
  checkLinesBS set maxLen acrhs (-1, 0)

end Ix
end Cors
