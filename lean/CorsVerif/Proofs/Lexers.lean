import CorsVerif.Model.Origins
import CorsVerif.Spec.Grammar
import CorsVerif.Proofs.Bytes
/-
  The lexers of origins.go.  The byte tables are the classes of Spec/Grammar.lean (two of them with `_` besides),
  and `portLoop` is `spanUpTo` with a fold; then, lexer by lexer, what a result implies (`_some`, `hostLoop_span`)
  and when a given result is returned (`_of`, `hostLoop_labels`), as an iff where the condition is short
  (`fastParseHost_eq_some`, `parse_eq_some`).
-/
namespace Cors
open Gen

namespace Lex

/-- `c` ranges over all of `Nat`, so the class `q` comes with a list `e` that enumerates it, and both inclusions
are `decide`d on lists. -/
theorem class_eq {set e : List Nat} {q : Nat → Bool} (hsub : set.all q = true) (hsup : e.all set.contains = true)
    (he : ∀ c, q c = true → c ∈ e) (c : Nat) : asciiContains set c = q c := by
  rw [Bool.eq_iff_iff]
  exact ⟨fun h => List.all_eq_true.mp hsub c (List.contains_iff_mem.mp h), fun h => List.all_eq_true.mp hsup c (he c h)⟩

theorem isLower_mem {c : Nat} (h : Spec.isLower c = true) : c ∈ List.range' 97 26 := by
  simp only [Spec.isLower, Bool.and_eq_true, decide_eq_true_eq] at h
  exact List.mem_range'_1.mpr (by omega)

theorem isDigit_mem {c : Nat} (h : Spec.isDigit c = true) : c ∈ List.range' 48 10 := by
  simp only [Spec.isDigit, Bool.and_eq_true, decide_eq_true_eq] at h
  exact List.mem_range'_1.mpr (by omega)

theorem isLowerAlpha_eq : ∀ c, isLowerAlpha c = Spec.isLower c :=
  class_eq (by decide) (by decide) fun _ => isLower_mem

theorem isDigit_eq : isDigit = Spec.isDigit :=
  funext (class_eq (by decide) (by decide) fun _ => isDigit_mem)

theorem isNonZeroDigit_eq : ∀ c, isNonZeroDigit c = (Spec.isDigit c && c != 48) :=
  class_eq (e := List.range' 49 9) (by decide) (by decide) fun c h => by
    simp only [Spec.isDigit, Bool.and_eq_true, decide_eq_true_eq, bne_iff_ne] at h
    exact List.mem_range'_1.mpr (by omega)

/-- 95 is `_`: the library's tables have it, the documented grammar leaves it out (a grey zone, Spec/Grammar.lean). -/
theorem isASCIILabelByte_eq : ∀ c, isASCIILabelByte c = (Spec.isLDH c || c == 95) :=
  class_eq (e := List.range' 97 26 ++ List.range' 48 10 ++ [45] ++ [95]) (by decide) (by decide) fun c h => by
    simp only [Spec.isLDH, Bool.or_eq_true, beq_iff_eq] at h
    simp only [List.mem_append, List.mem_singleton]
    exact h.imp_left (Or.imp_left (Or.imp isLower_mem isDigit_mem))

theorem isSubsequentSchemeByte_eq : ∀ c, isSubsequentSchemeByte c = (Spec.isSchemeByte c || c == 95) :=
  class_eq (e := List.range' 97 26 ++ List.range' 48 10 ++ [43] ++ [45] ++ [46] ++ [95]) (by decide) (by decide) fun c h => by
    simp only [Spec.isSchemeByte, Bool.or_eq_true, beq_iff_eq] at h
    simp only [List.mem_append, List.mem_singleton]
    exact h.imp_left (Or.imp_left (Or.imp_left (Or.imp_left (Or.imp isLower_mem isDigit_mem))))

theorem spanUpTo_spec (p : Nat → Bool) (n : Nat) (s : Bytes) :
    (spanUpTo p n s).1 ++ (spanUpTo p n s).2 = s ∧ (spanUpTo p n s).1.length ≤ n ∧ (spanUpTo p n s).1.all p = true := by
  fun_induction spanUpTo p n s <;> simp_all

theorem spanUpTo_exact {p : Nat → Bool} {n : Nat} {l r : Bytes} (hl : l.all p = true) (hn : l.length ≤ n)
    (hr : r.head?.all (fun c => !p c) = true) : spanUpTo p n (l ++ r) = (l, r) := by
  induction l generalizing n with
  | nil => cases n <;> cases r <;> simp_all [spanUpTo]
  | cons a t ih =>
    cases n with
    | zero => simp at hn
    | succ n =>
      simp only [List.all_cons, Bool.and_eq_true, List.length_cons, Nat.add_le_add_iff_right] at hl hn
      simp only [List.cons_append, spanUpTo, hl.1, if_true, ih hl.2 hn]

/-- A scheme as `parseScheme` reads it. -/
def IsScheme (s : Bytes) : Prop :=
  ∃ b l, s = b :: l ∧ isLowerAlpha b = true ∧ l.all isSubsequentSchemeByte = true ∧ l.length < Facts.origins_maxSchemeLen

theorem parseScheme_some {s scheme rest : Bytes} (h : parseScheme s = some (scheme, rest)) :
    s = scheme ++ rest ∧ IsScheme scheme := by
  unfold parseScheme at h
  split at h
  · cases h
  · rename_i b t
    obtain ⟨h1, h2, h3⟩ := spanUpTo_spec isSubsequentSchemeByte (Facts.origins_maxSchemeLen - 1) t
    split at h
    · cases h
    · rename_i hb
      cases h
      exact ⟨by rw [List.cons_append, h1], b, _, rfl, by simpa using hb, h3, by simp only [Facts.origins_maxSchemeLen] at h2 ⊢; omega⟩

theorem parseScheme_of {scheme r : Bytes} (hs : IsScheme scheme)
    (hr : r.head?.all (fun c => !isSubsequentSchemeByte c) = true) : parseScheme (scheme ++ r) = some (scheme, r) := by
  obtain ⟨b, l, rfl, hb, hl, hlen⟩ := hs
  simp only [List.cons_append, parseScheme, hb, Bool.not_true, Bool.false_eq_true, if_false,
    spanUpTo_exact hl (Nat.le_sub_one_of_lt hlen) hr]

theorem portLoop_eq (n : Nat) (s : Bytes) (acc : Nat) :
    portLoop n s acc =
      ((spanUpTo isDigit n s).1.foldl (fun a b => 10 * a + (b - 48)) acc, (spanUpTo isDigit n s).2) := by
  fun_induction portLoop n s acc <;> simp_all [spanUpTo, Facts.origins_parsePort_base]

theorem portValue_cons (d : Nat) (t : Bytes) : Spec.portValue (d :: t) = t.foldl (fun a b => 10 * a + (b - 48)) (d - 48) := by
  simp [Spec.portValue]

/-- The digits of a port as `parsePort` reads them. -/
def IsPortDigits (ds : Bytes) : Prop :=
  ds.all Spec.isDigit = true ∧ ds ≠ [] ∧ ds.head? ≠ some 48 ∧ ds.length ≤ Facts.origins_maxPortLen

theorem parsePort_some {s rest : Bytes} {n : Nat} (h : parsePort s = some (n, rest)) :
    ∃ ds, s = ds ++ rest ∧ IsPortDigits ds ∧ n = Spec.portValue ds ∧ n ≤ Facts.origins_maxUint16 := by
  unfold parsePort at h
  split at h
  · cases h
  · rename_i d t
    obtain ⟨h1, h2, h3⟩ := spanUpTo_spec isDigit (Facts.origins_maxPortLen - 1) t
    simp only [portLoop_eq, ← portValue_cons] at h
    split at h
    · cases h
    · rename_i hd
      split at h
      · cases h
      · rename_i hle
        cases h
        generalize (spanUpTo isDigit (Facts.origins_maxPortLen - 1) t).1 = l at h1 h2 h3 hle ⊢
        rw [isNonZeroDigit_eq] at hd
        rw [isDigit_eq] at h3
        exact ⟨d :: l, by rw [List.cons_append, h1],
          ⟨by simp_all, by simp, by simp_all, by simp only [Facts.origins_maxPortLen, List.length_cons] at h2 ⊢; omega⟩, rfl, by omega⟩

theorem parsePort_of {ds r : Bytes} (hd : IsPortDigits ds) (hv : Spec.portValue ds ≤ Facts.origins_maxUint16)
    (hr : r.head?.all (fun c => !isDigit c) = true) : parsePort (ds ++ r) = some (Spec.portValue ds, r) := by
  obtain ⟨hall, hne, hz, hlen⟩ := hd
  obtain ⟨d, t, rfl⟩ := List.exists_cons_of_ne_nil hne
  simp only [List.all_cons, Bool.and_eq_true, ← isDigit_eq] at hall
  have hnz : isNonZeroDigit d = true := by rw [isNonZeroDigit_eq, ← isDigit_eq, hall.1]; simpa using hz
  simp only [List.cons_append, parsePort, hnz, Bool.not_true, Bool.false_eq_true, if_false, portLoop_eq,
    spanUpTo_exact hall.2 (Nat.le_sub_one_of_lt hlen) hr, ← portValue_cons, if_neg (Nat.not_lt.mpr hv)]

/-- A byte the host loop walks over. -/
def isHostByte (b : Nat) : Bool := b == Facts.origins_labelSep || isDigit b || isASCIILabelByte b

structure HostSpan (s h r : Bytes) : Prop where
  eq : s = h ++ r
  bytes : h.all isHostByte = true

theorem hostLoop_span {s : Bytes} {ps ip fst : Bool} {h r : Bytes} {ip' : Bool}
    (hl : hostLoop s ps ip fst = some (h, r, ip')) : HostSpan s h r := by
  fun_induction hostLoop s ps ip fst generalizing h r ip'
  -- the branches without a recursive call: the end of the string, a dot after a dot (`none`), a byte that is no host byte
  case case1 => cases hl; exact ⟨rfl, rfl⟩
  case case2 => cases hl
  case case6 => cases hl; exact ⟨rfl, rfl⟩
  all_goals
    rename_i ih
    simp only [Option.map_eq_some_iff, Prod.exists] at hl
    obtain ⟨h', r', ip'', hrec, heq⟩ := hl
    cases heq
    exact ⟨by rw [(ih hrec).eq]; rfl, by simp [isHostByte, (ih hrec).bytes, *]⟩

theorem hostLoop_stop {r : Bytes} (hr : r.head?.all (fun c => !isHostByte c) = true) (ps ip fst : Bool) :
    hostLoop r ps ip fst = some ([], r, ip) := by
  cases r with
  | nil => rfl
  | cons c t =>
    simp only [List.head?_cons, Option.all_some, isHostByte, Bool.not_or, Bool.and_eq_true, Bool.not_eq_true'] at hr
    simp [hostLoop, hr.1.1, hr.1.2, hr.2]

/-- A letter, digit or hyphen is walked over; at the start of a label it sets the IPv4 guess. -/
theorem hostLoop_ldh {c : Nat} (hc : Spec.isLDH c = true) {s h r : Bytes} {ps ip fst ip' : Bool}
    (hrec : hostLoop s false (if Spec.isDigit c then (if ps || fst then true else ip) else (if ps then false else ip)) false
      = some (h, r, ip')) :
    hostLoop (c :: s) ps ip fst = some (c :: h, r, ip') := by
  have h46 : (c == Facts.origins_labelSep) = false := beq_eq_false_iff_ne.mpr (by rintro rfl; cases hc)
  have hlab : isASCIILabelByte c = true := by rw [isASCIILabelByte_eq, hc]; rfl
  simp only [hostLoop, h46, isDigit_eq, hlab, Bool.false_eq_true, if_false, if_true]
  cases hd : Spec.isDigit c <;> simp only [hd, Bool.false_eq_true, if_false, if_true] at hrec ⊢ <;>
    rw [hrec, Option.map_some]

theorem hostLoop_ldhs {l : Bytes} (hl : l.all Spec.isLDH = true) {s h r : Bytes} {ip ip' : Bool}
    (hrec : hostLoop s false ip false = some (h, r, ip')) :
    hostLoop (l ++ s) false ip false = some (l ++ h, r, ip') := by
  induction l with
  | nil => exact hrec
  | cons c t ih =>
    simp only [List.all_cons, Bool.and_eq_true] at hl
    exact hostLoop_ldh hl.1 (by simpa using ih hl.2)

theorem hostLoop_dot {s h r : Bytes} {ip fst ip' : Bool} (hrec : hostLoop s true ip false = some (h, r, ip')) :
    hostLoop (46 :: s) false ip fst = some (46 :: h, r, ip') := by
  simp [hostLoop, Facts.origins_labelSep, hrec]

/-- `hflag`: the flags as `fastParseHost` sets them, or after a dot. -/
theorem hostLoop_label {c : Nat} {t : Bytes} (hl : (c :: t).all Spec.isLDH = true) {s h r : Bytes} {ps ip fst ip' : Bool}
    (hflag : ps = true ∨ (fst = true ∧ ip = false)) (hrec : hostLoop s false (Spec.isDigit c) false = some (h, r, ip')) :
    hostLoop (c :: t ++ s) ps ip fst = some (c :: t ++ h, r, ip') := by
  simp only [List.all_cons, Bool.and_eq_true] at hl
  refine hostLoop_ldh hl.1 (hostLoop_ldhs hl.2 ?_)
  rcases hflag with rfl | ⟨rfl, rfl⟩ <;> cases hd : Spec.isDigit c <;> simpa [hd] using hrec

def hostOf (ls : List Bytes) (dot : Bool) : Bytes := Bytes.join 46 ls ++ (if dot then [46] else [])

/-- The IPv4 guess is whether the last label starts with a digit, as the comment above the loop of `fastParseHost` says. -/
theorem hostLoop_labels {ls : List Bytes} (hls : ∀ l ∈ ls, l ≠ [] ∧ l.all Spec.isLDH = true) {c : Nat} {t : Bytes}
    (hlast : ls.getLast? = some (c :: t)) (dot : Bool) {r : Bytes} (hr : r.head?.all (fun c => !isHostByte c) = true)
    {ps ip fst : Bool} (hflag : ps = true ∨ (fst = true ∧ ip = false)) :
    hostLoop (hostOf ls dot ++ r) ps ip fst = some (hostOf ls dot, r, Spec.isDigit c) := by
  induction ls generalizing ps ip fst with
  | nil => cases hlast
  | cons l rest ih =>
    obtain ⟨hne, hl⟩ := hls l List.mem_cons_self
    cases rest with
    | nil =>
      cases hlast
      have : hostLoop ((if dot then [46] else []) ++ r) false (Spec.isDigit c) false =
          some ((if dot then [46] else []), r, Spec.isDigit c) := by
        cases dot
        · exact hostLoop_stop hr _ _ _
        · exact hostLoop_dot (hostLoop_stop hr _ _ _)
      simpa [hostOf, Bytes.join] using hostLoop_label hl hflag this
    | cons l2 rest2 =>
      obtain ⟨c', t', rfl⟩ := List.exists_cons_of_ne_nil hne
      have := ih (fun x hx => hls x (List.mem_cons_of_mem _ hx)) (by simpa [List.getLast?_cons_cons] using hlast)
        (ps := true) (ip := Spec.isDigit c') (fst := false) (Or.inl rfl)
      simpa [hostOf, Bytes.join] using hostLoop_label hl hflag (hostLoop_dot this)

/-- The two ways `fastParseHost` reads a host: between brackets, unexamined; or by the host loop.  `2 ≤ …` and
`… < 3` are `len(str) >= minIPv6HostLen` (4) and its negation, less the two brackets resp. the first byte. -/
inductive HostRead : Bytes → Host → Bytes → Prop
  | bracket {v rest : Bytes} : 2 ≤ v.length + rest.length → 93 ∉ v → HostRead (91 :: v ++ 93 :: rest) ⟨v, true⟩ rest
  | plain {b : Nat} {t h rest : Bytes} {ip : Bool} : b ≠ Facts.origins_labelSep → (b = 91 → t.length < 3) →
      hostLoop (b :: t) false false true = some (h, rest, ip) → HostRead (b :: t) ⟨h, ip⟩ rest

theorem fastParseHost_eq_some {str : Bytes} {host : Host} {rest : Bytes} :
    fastParseHost str = some (host, rest) ↔ HostRead str host rest := by
  constructor
  · intro h
    unfold fastParseHost at h
    split at h
    · rename_i hb
      split at h
      · cases h
      · rename_i before after hc
        cases h
        obtain ⟨rfl, h93⟩ := Bytes.cutAt_some hc
        cases before with
        | nil => simp at hb
        | cons c v =>
          simp only [Facts.origins_fastParseHost_minIPv6HostLen, List.cons_append, List.length_cons, List.length_append,
            List.head?_cons, Bool.and_eq_true, decide_eq_true_eq, beq_iff_eq, Option.some.injEq] at hb
          obtain ⟨hlen, rfl⟩ := hb
          exact .bracket (by omega) (fun hm => h93 (List.mem_cons_of_mem _ hm))
    · rename_i hb
      split at h
      · cases h
      · rename_i b t
        split at h
        · cases h
        · rename_i h46
          split at h
          · cases h
          · rename_i hh r ip hl
            cases h
            refine .plain (by simpa using h46) (fun h91 => ?_) hl
            subst h91
            simp [Facts.origins_fastParseHost_minIPv6HostLen] at hb
            omega
  · intro h
    cases h with
    | bracket hlen h93 =>
      rename_i v
      have hc : Bytes.cutAt 93 (91 :: v ++ 93 :: rest) = some (91 :: v, rest) :=
        Bytes.cutAt_append (e := 91 :: v) (by simp [h93])
      simp only [fastParseHost, hc, Facts.origins_fastParseHost_minIPv6HostLen]
      rw [if_pos (by simp; omega)]
      rfl
    | plain h46 h91 hl =>
      simp only [fastParseHost, hl, Facts.origins_fastParseHost_minIPv6HostLen]
      rw [if_neg (by simp; intro hlen h; have := h91 h; omega), if_neg (by simpa using h46)]

theorem fastParseHost_cases {str : Bytes} {host : Host} {rest : Bytes} (h : fastParseHost str = some (host, rest)) :
    (str = 91 :: host.value ++ 93 :: rest ∧ host.assumeIP = true) ∨ HostSpan str host.value rest := by
  cases fastParseHost_eq_some.mp h with
  | bracket => exact Or.inl ⟨rfl, rfl⟩
  | plain _ _ hl => exact Or.inr (hostLoop_span hl)

theorem fastParseHost_span {str v rest : Bytes} (h : fastParseHost str = some (⟨v, false⟩, rest)) : HostSpan str v rest := by
  rcases fastParseHost_cases h with ⟨_, h⟩ | h
  · cases h
  · exact h

theorem parse_eq_some {s : Bytes} {o : Origin} :
    parse s = some o ↔
      s.length ≤ Facts.origins_Parse_maxOriginLen ∧
      ∃ r2 r3, parseScheme s = some (o.scheme, Facts.origins_schemeHostSep ++ r2) ∧ fastParseHost r2 = some (o.host, r3) ∧
        ((r3 = [] ∧ o.port = 0) ∨ ∃ r4, r3 = Facts.origins_hostPortSep :: r4 ∧ parsePort r4 = some (o.port, [])) := by
  unfold parse
  constructor
  · intro h
    split at h
    · cases h
    · rename_i hlen
      split at h
      · cases h
      · rename_i scheme r1 hps
        split at h
        · cases h
        · rename_i r2 hcp
          split at h
          · cases h
          · rename_i host r3 hfp
            rw [Bytes.cutPrefix_eq_some.mp hcp] at hps
            split at h
            · rename_i he
              cases h
              exact ⟨by omega, r2, r3, hps, hfp, Or.inl ⟨List.isEmpty_iff.mp he, rfl⟩⟩
            · split at h
              · cases h
              · rename_i r4 hc4
                split at h
                · cases h
                · rename_i port rest hpp
                  split at h
                  · cases h
                  · rename_i hr
                    cases h
                    have hr' : rest = [] := by simpa using hr
                    subst hr'
                    exact ⟨by omega, r2, r3, hps, hfp, Or.inr ⟨r4, Bytes.cutPrefix_eq_some.mp hc4, hpp⟩⟩
  · rintro ⟨hlen, r2, r3, hps, hfp, hport⟩
    obtain ⟨scheme, host, port⟩ := o
    have hcp : Bytes.cutPrefix (Facts.origins_schemeHostSep ++ r2) Facts.origins_schemeHostSep = some r2 :=
      Bytes.cutPrefix_eq_some.mpr rfl
    rw [if_neg (by omega)]
    simp only [hps, hcp, hfp]
    rcases hport with ⟨rfl, rfl⟩ | ⟨r4, rfl, hpp⟩
    · rfl
    · have hc4 : Bytes.cutPrefix (Facts.origins_hostPortSep :: r4) [Facts.origins_hostPortSep] = some r4 :=
        Bytes.cutPrefix_eq_some.mpr rfl
      simp [hc4, hpp]

end Lex

theorem parse_port_le {raw : Bytes} {o : Origin} (h : Lex.parse raw = some o) : o.port ≤ 65535 := by
  obtain ⟨_, _, _, _, _, ⟨_, h0⟩ | ⟨_, _, hpp⟩⟩ := Lex.parse_eq_some.mp h
  · omega
  · obtain ⟨_, _, _, _, hle⟩ := Lex.parsePort_some hpp; exact hle

end Cors
