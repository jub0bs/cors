import CorsVerif.Model.Util
import CorsVerif.Proofs.Sorted
/-
  The byte-lexicographic order is a strict total order.  `SortedSet.WF` (strictly sorted, `maxLen` an upper
  bound of the element lengths) is what the look-ups need: the scan is core's `List.idxOf?`, and under `WF` the
  length shortcut of `IndexAfter` changes nothing (`indexAfter_eq`).  `add` keeps `WF` (`add_wf`); the proofs
  get it from the stronger `SortedSet.Exact` of Sets.lean.  A sorted permutation is unique, so sorting a
  sorted list changes nothing.
-/
namespace Cors

namespace Bytes

theorem lt_iff {a b : Bytes} : lt a b = true ↔ a < b := by
  induction a generalizing b with
  | nil => cases b <;> simp [lt]
  | cons x xs ih =>
    cases b with
    | nil => simp [lt]
    | cons y ys =>
      rw [lt, List.cons_lt_cons_iff, ← ih]
      by_cases h1 : x < y
      · simp [h1]
      · by_cases h2 : y < x
        · have : x ≠ y := by omega
          simp [h1, h2, this]
        · have : x = y := by omega
          simp [this]

/- The instances for `List.lt_irrefl` and `List.lt_asymm` are given by hand: the ones instance search finds for
`Nat` rest on `Classical.choice`, and `C06_sort_contract` (through `sortBy_sortedB`) and `lt_ne` are free of it. -/

theorem lt_irrefl (a : Bytes) : lt a a = false :=
  Bool.eq_false_iff.mpr fun h => @List.lt_irrefl Nat _ ⟨Nat.lt_irrefl⟩ a (lt_iff.mp h)

theorem lt_trans {a b c : Bytes} (h1 : lt a b = true) (h2 : lt b c = true) : lt a c = true :=
  lt_iff.mpr (List.lt_trans (lt_iff.mp h1) (lt_iff.mp h2))

theorem lt_asymm {a b : Bytes} (h : lt a b = true) : lt b a = false :=
  Bool.eq_false_iff.mpr fun h' => @List.lt_asymm Nat _ ⟨fun _ _ => Nat.lt_asymm⟩ _ _ (lt_iff.mp h) (lt_iff.mp h')

theorem lt_trichotomy (a b : Bytes) : lt a b = true ∨ a = b ∨ lt b a = true := by
  induction a generalizing b with
  | nil => cases b <;> simp [lt]
  | cons x xs ih =>
    cases b with
    | nil => simp [lt]
    | cons y ys =>
      simp only [lt_iff, List.cons_lt_cons_iff] at ih ⊢
      rcases Nat.lt_trichotomy x y with h | rfl | h
      · exact Or.inl (Or.inl h)
      · rcases ih ys with h | rfl | h
        · exact Or.inl (Or.inr ⟨rfl, h⟩)
        · exact Or.inr (Or.inl rfl)
        · exact Or.inr (Or.inr (Or.inr ⟨rfl, h⟩))
      · exact Or.inr (Or.inr (Or.inl h))

theorem eq_of_not_lt {a b : Bytes} (h1 : lt a b = false) (h2 : lt b a = false) : a = b := by
  rcases lt_trichotomy a b with h | h | h
  · rw [h1] at h; cases h
  · exact h
  · rw [h2] at h; cases h

theorem not_lt_trans {a b c : Bytes} (h1 : lt b a = false) (h2 : lt c b = false) : lt c a = false := by
  cases h : lt c a with
  | false => rfl
  | true =>
    rcases lt_trichotomy a b with h3 | rfl | h3
    · rw [lt_trans h h3] at h2; cases h2
    · rw [h] at h2; cases h2
    · rw [h3] at h1; cases h1

theorem lt_ne {a b : Bytes} (h : lt a b = true) : a ≠ b := by
  intro hab; subst hab; rw [lt_irrefl] at h; cases h

end Bytes

def StrictSorted (l : List Bytes) : Prop := l.Pairwise (fun a b => Bytes.lt a b = true)

theorem insertSorted_sorted {x : Bytes} {l : List Bytes} (hl : StrictSorted l) (hx : x ∉ l) :
    StrictSorted (insertSorted Bytes.lt x l) := by
  refine insertSorted_pairwise hl (fun _ _ h => h) (fun y hy h => ?_) Bytes.lt_trans
  rcases Bytes.lt_trichotomy x y with h' | rfl | h'
  · rw [h] at h'; cases h'
  · exact absurd hy hx
  · exact h'

structure SortedSet.WF (set : SortedSet) : Prop where
  sorted : StrictSorted set.elems
  bound : ∀ x ∈ set.elems, x.length ≤ set.maxLen

theorem SortedSet.size_eq_zero {s : SortedSet} : s.size = 0 ↔ s.elems = [] := List.length_eq_zero_iff

/-- `newConfig` lists a set only under `Size() > 0` (config.go); the guard is idle. -/
theorem SortedSet.elems_of_size (s : SortedSet) : (if s.size > 0 then s.elems else []) = s.elems := by
  split
  · rfl
  · exact (size_eq_zero.mp (by omega)).symm

theorem SortedSet.add_of_mem {s : SortedSet} {e : Bytes} (h : e ∈ s.elems) : s.add e = s := by
  unfold SortedSet.add
  rw [if_pos (List.contains_iff_mem.mpr h)]

theorem SortedSet.add_of_not_mem {s : SortedSet} {e : Bytes} (h : e ∉ s.elems) :
    s.add e = { elems := insertSorted Bytes.lt e s.elems, maxLen := max s.maxLen e.length } := by
  unfold SortedSet.add
  rw [if_neg (mt List.contains_iff_mem.mp h)]

theorem SortedSet.add_wf (set : SortedSet) (h : set.WF) (e : Bytes) : (set.add e).WF := by
  by_cases he : e ∈ set.elems
  · rwa [add_of_mem he]
  · rw [add_of_not_mem he]
    refine ⟨insertSorted_sorted h.sorted he, fun x hx => ?_⟩
    rcases mem_insertSorted.mp hx with rfl | hx
    · exact Nat.le_max_right _ _
    · exact Nat.le_trans (h.bound x hx) (Nat.le_max_left _ _)

theorem SortedSet.mem_add (set : SortedSet) (e x : Bytes) : x ∈ (set.add e).elems ↔ x = e ∨ x ∈ set.elems := by
  by_cases h : e ∈ set.elems
  · rw [add_of_mem h]; exact ⟨Or.inr, fun h' => h'.elim (· ▸ h) id⟩
  · rw [add_of_not_mem h]; exact mem_insertSorted

theorem SortedSet.findIdx_eq_idxOf? (e : Bytes) (l : List Bytes) : SortedSet.findIdx e l = l.idxOf? e := by
  induction l with
  | nil => rfl
  | cons x xs ih => rw [SortedSet.findIdx, List.idxOf?_cons, ih]

theorem SortedSet.findIdx_none {e : Bytes} {l : List Bytes} : SortedSet.findIdx e l = none ↔ e ∉ l := by
  rw [SortedSet.findIdx_eq_idxOf?, List.idxOf?_eq_none_iff]

theorem SortedSet.findIdx_some {e : Bytes} {l : List Bytes} {j : Nat} (h : SortedSet.findIdx e l = some j) :
    ∃ pre post, l = pre ++ e :: post ∧ pre.length = j ∧ l.drop (j + 1) = post := by
  rw [SortedSet.findIdx_eq_idxOf?, List.idxOf?_eq_some_iff] at h
  obtain ⟨hj, rfl, _⟩ := h
  exact ⟨l.take j, l.drop (j + 1), by rw [← List.drop_eq_getElem_cons hj, List.take_append_drop],
    List.length_take_of_le (Nat.le_of_lt hj), rfl⟩

/-- Under the invariant of `SortedSet`, the length shortcut of `IndexAfter` changes nothing. -/
theorem SortedSet.indexAfter_eq (set : SortedSet) (h : set.WF) (start : Nat) (e : Bytes) :
    set.indexAfter start e = (SortedSet.findIdx e (set.elems.drop start)).map (· + start) := by
  unfold SortedSet.indexAfter
  split
  · rename_i hlen
    have : e ∉ set.elems.drop start := by
      intro hm
      have := h.bound e (List.mem_of_mem_drop hm)
      omega
    rw [SortedSet.findIdx_none.mpr this]; rfl
  · rfl

/-! `slices.Sort` (`sortBy Bytes.lt`) yields the one sorted arrangement of its input. -/
namespace Node

def SortedB (l : List Bytes) : Prop := l.Pairwise (fun a b => Bytes.lt b a = false)

theorem sortBy_sortedB (l : List Bytes) : SortedB (sortBy Bytes.lt l) := by
  induction l with
  | nil => exact .nil
  | cons x xs ih =>
    exact insertSorted_pairwise ih (fun _ _ h => Bytes.lt_asymm h) (fun _ _ h => h) Bytes.not_lt_trans

theorem sorted_perm_eq {a b : List Bytes} (ha : SortedB a) (hb : SortedB b) (h : a.Perm b) : a = b :=
  h.eq_of_pairwise (le := fun a b => Bytes.lt b a = false) (fun _ _ _ _ h1 h2 => Bytes.eq_of_not_lt h2 h1) ha hb

theorem sortBy_eq_of_perm {l1 l2 : List Bytes} (h : l1.Perm l2) : sortBy Bytes.lt l1 = sortBy Bytes.lt l2 :=
  sorted_perm_eq (sortBy_sortedB l1) (sortBy_sortedB l2) ((sortBy_perm _ l1).trans (h.trans (sortBy_perm _ l2).symm))

theorem sortBy_of_sorted {l s : List Bytes} (hs : SortedB s) (h : l.Perm s) : sortBy Bytes.lt l = s :=
  sorted_perm_eq (sortBy_sortedB l) hs ((sortBy_perm _ l).trans h)

end Node

end Cors
