import CorsVerif.Model.Basic
/-
  `strconv.Itoa` against the digit readers (ports, max-age): each is the inverse of the other on
  decimal numerals without a leading zero.
-/
namespace Cors

namespace Bytes

def digitsValue (ds : Bytes) : Nat := ds.foldl (fun acc c => 10 * acc + (c - 48)) 0

theorem itoaAux_spec (n : Nat) : ∀ fuel, n < fuel → ∀ acc, itoaAux fuel n acc = itoaAux (n + 1) n [] ++ acc := by
  induction n using Nat.strongRecOn with
  | _ n ih =>
    intro fuel hf acc
    cases fuel with
    | zero => omega
    | succ f =>
      by_cases h10 : n < 10
      · simp [itoaAux, h10]
      · simp only [itoaAux, h10, if_false]
        have hlt : n / 10 < n := by omega
        rw [ih (n / 10) hlt f (by omega) _, ih (n / 10) hlt n (by omega) [48 + n % 10]]
        simp

theorem itoa_lt10 {n : Nat} (h : n < 10) : itoa n = [48 + n] := by
  simp [itoa, itoaAux, h]

theorem itoa_ge10 {n : Nat} (h : 10 ≤ n) : itoa n = itoa (n / 10) ++ [48 + n % 10] := by
  have h10 : ¬ n < 10 := by omega
  have e : itoa n = itoaAux n (n / 10) [48 + n % 10] := by
    show itoaAux (n + 1) n [] = _
    simp only [itoaAux, h10, if_false]
  rw [e, itoaAux_spec (n / 10) n (by omega) [48 + n % 10]]
  rfl

theorem itoa_snoc {v d : Nat} (hv : 1 ≤ v) (hd : d < 10) : itoa (10 * v + d) = itoa v ++ [48 + d] := by
  rw [itoa_ge10 (by omega), Nat.mul_add_div (by decide), Nat.div_eq_of_lt hd, Nat.add_zero, Nat.mul_add_mod,
    Nat.mod_eq_of_lt hd]

theorem digitsValue_snoc (ds : Bytes) (c : Nat) : digitsValue (ds ++ [c]) = 10 * digitsValue ds + (c - 48) := by
  simp [digitsValue, List.foldl_append]

theorem itoa_foldl (ds : Bytes) (hd : ds.all isDigitB = true) (v : Nat) (hv : 1 ≤ v) :
    itoa (ds.foldl (fun acc c => 10 * acc + (c - 48)) v) = itoa v ++ ds ∧ 1 ≤ ds.foldl (fun acc c => 10 * acc + (c - 48)) v := by
  induction ds generalizing v with
  | nil => exact ⟨(List.append_nil _).symm, hv⟩
  | cons c t ih =>
    simp only [List.all_cons, Bool.and_eq_true, isDigitB, decide_eq_true_eq] at hd
    obtain ⟨h1, h2⟩ := ih hd.2 (10 * v + (c - 48)) (by omega)
    refine ⟨?_, h2⟩
    rw [List.foldl_cons, h1, itoa_snoc hv (by omega), show 48 + (c - 48) = c by omega, List.append_assoc]
    rfl

theorem itoa_digitsValue (ds : Bytes) (hd : ds.all isDigitB = true) (hne : ds ≠ [])
    (hnz : ds.head? ≠ some 48) : itoa (digitsValue ds) = ds ∧ 1 ≤ digitsValue ds := by
  obtain ⟨d, t, rfl⟩ := List.exists_cons_of_ne_nil hne
  simp only [List.all_cons, Bool.and_eq_true] at hd
  have hd1 : 48 ≤ d ∧ d ≤ 57 := by simpa [isDigitB] using hd.1
  have hnz' : ¬ d = 48 := by simpa using hnz
  have := itoa_foldl t hd.2 (d - 48) (by omega)
  rw [itoa_lt10 (n := d - 48) (by omega), show 48 + (d - 48) = d by omega] at this
  simpa [digitsValue] using this

theorem digitsValue_itoa (n : Nat) : digitsValue (itoa n) = n ∧ (itoa n).all isDigitB = true ∧ itoa n ≠ [] := by
  induction n using Nat.strongRecOn with
  | _ n ih =>
    by_cases h10 : n < 10
    · rw [itoa_lt10 h10]
      refine ⟨by simp [digitsValue], ?_, by simp⟩
      simp [isDigitB]; omega
    · have h : 10 ≤ n := by omega
      rw [itoa_ge10 h]
      obtain ⟨i1, i2, i3⟩ := ih (n / 10) (by omega)
      refine ⟨?_, ?_, by simp⟩
      · rw [digitsValue_snoc, i1]; omega
      · simp only [List.all_append, i2, List.all_cons, List.all_nil, Bool.and_true, Bool.true_and]
        simp [isDigitB]; omega

theorem atoi_itoa (n : Nat) : atoi (itoa n) = some n := by
  obtain ⟨h1, h2, h3⟩ := digitsValue_itoa n
  unfold atoi
  rw [List.isEmpty_eq_false_iff.mpr h3]
  simp only [Bool.false_eq_true, if_false]
  -- the option-valued fold agrees with the plain fold on digit strings
  have key : ∀ (ds : Bytes) (acc : Nat), ds.all isDigitB = true →
      ds.foldl (fun acc c => match acc with
        | none => none
        | some v => if isDigitB c then some (10 * v + (c - 48)) else none) (some acc) =
      some (ds.foldl (fun acc c => 10 * acc + (c - 48)) acc) := by
    intro ds
    induction ds with
    | nil => intro acc _; rfl
    | cons d t ih =>
      intro acc hd
      simp only [List.all_cons, Bool.and_eq_true] at hd
      simp only [List.foldl_cons, hd.1, if_true]
      exact ih _ hd.2
  exact Eq.trans (key (itoa n) 0 h2) (congrArg some h1)

end Bytes
end Cors
