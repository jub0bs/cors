import CorsVerif.Proofs.Node
/-
  The stored entries of a tree: a tree denotes exactly the union of the coverages of its stored
  entries (`den_spec`, for any tree satisfying the invariant, however built); an insertion stores
  nothing but the new entry (`store_spec`: membership only; what exactly is stored is `insert_exact`,
  StoreExact.lean); `node.elems` renders the stored entries (`elems_spec`), so `Tree.Elems` is their sorted
  rendering (`tree_elems_eq`).
-/
namespace Cors
namespace Node

/-- The (scheme, port code) pairs of a scheme table.  A code is signed as `node.add` stores it (Ports.lean):
negative for a wildcard-subdomains entry, 65536 and -1 the two wildcard ports. -/
def own (S : List (Bytes × List Int)) : List (Bytes × Int) :=
  S.flatMap fun e => e.2.map fun c => (e.1, c)

mutual
/-- The stored entries of a node, keys relative to the position after the node's own suffix. -/
def entries : Node → List (Bytes × Bytes × Int)
  | .mk _ S K => (own S).map (fun e => ([], e.1, e.2)) ++ entriesKids K
def entriesKids : List (Nat × Node) → List (Bytes × Bytes × Int)
  | [] => []
  | (_, c) :: rest => (entries c).map (fun e => (c.suf ++ e.1, e.2.1, e.2.2)) ++ entriesKids rest
end

/-- A stored entry: key (reversed host, without `*`), scheme, signed port code. -/
abbrev Entry := Bytes × Bytes × Int

def ownE (x : Bytes × Int) : Entry := ([], x.1, x.2)

def pre (k : Bytes) (e : Entry) : Entry := (k ++ e.1, e.2.1, e.2.2)

def childEntries (c : Node) : List Entry := (entries c).map (pre c.suf)

/-- `entryCovers` for a stored entry, its code decoded. -/
def ecov (e : Bytes × Bytes × Int) (h sch' : Bytes) (p' : Int) : Bool :=
  entryCovers e.1 e.2.1 (decodePort e.2.2) (decodeWild e.2.2) h sch' p'

theorem ecov_code (s sch : Bytes) {p : Int} (w : Bool) (hp : 0 ≤ p ∧ p ≤ 65536) (h sch' : Bytes) (p' : Int) :
    ecov (s, sch, code p w) h sch' p' = entryCovers s sch p w h sch' p' := by
  unfold ecov; simp only [decode_code w hp]

theorem ecov_iff {k sch : Bytes} {c : Int} {h sch' : Bytes} {p' : Int} :
    ecov (k, sch, c) h sch' p' = true ↔
      sch = sch' ∧ (if c < 0 then k.length < h.length ∧ k <+: h else k = h) ∧
        (decodePort c = p' ∨ decodePort c = 65536) := by
  unfold ecov decodeWild
  rw [entryCovers_iff]
  simp only [decide_eq_true_eq]

theorem entries_mk (suf : Bytes) (S : List (Bytes × List Int)) (K : List (Nat × Node)) :
    entries (.mk suf S K) = (own S).map ownE ++ entriesKids K := by
  rw [entries]; rfl

theorem entriesKids_cons (l : Nat) (c : Node) (rest : List (Nat × Node)) :
    entriesKids ((l, c) :: rest) = childEntries c ++ entriesKids rest := by
  rw [entriesKids]; rfl

theorem entriesKids_nil : entriesKids [] = [] := by rw [entriesKids]

theorem mem_own {S : List (Bytes × List Int)} {sch : Bytes} {c : Int} :
    (sch, c) ∈ own S ↔ ∃ ps, (sch, ps) ∈ S ∧ c ∈ ps := by
  unfold own
  simp only [List.mem_flatMap, List.mem_map, Prod.mk.injEq]
  constructor
  · rintro ⟨⟨s, ps⟩, hm, c', hc, rfl, rfl⟩; exact ⟨ps, hm, hc⟩
  · rintro ⟨ps, hm, hc⟩; exact ⟨(sch, ps), hm, c, hc, rfl, rfl⟩

theorem containsPort_eq_any (S : List (Bytes × List Int)) (hS : SchemesOK S) (sch : Bytes) (q : Int) (w : Bool) :
    containsPort S sch q w = (own S).any fun x => x.1 == sch && (x.2 == code q w || x.2 == wildCode w) := by
  rw [containsPort_eq, Bool.eq_iff_iff, List.any_eq_true]
  constructor
  · intro h
    cases hl : lookupScheme sch S with
    | none => rw [hl] at h; cases h
    | some ps =>
      rw [hl] at h
      rcases (covers_iff _ _ _).mp h with h | h
      · exact ⟨(sch, _), mem_own.mpr ⟨ps, lookup_mem hl, h⟩, by simp⟩
      · exact ⟨(sch, _), mem_own.mpr ⟨ps, lookup_mem hl, h⟩, by simp⟩
  · rintro ⟨⟨xs, xc⟩, hx, hc⟩
    simp only [Bool.and_eq_true, Bool.or_eq_true, beq_iff_eq] at hc
    obtain ⟨rfl, hc⟩ := hc
    obtain ⟨ps, hm, hq⟩ := mem_own.mp hx
    rw [lookup_unique hS hm]
    exact (covers_iff _ _ _).mpr (hc.imp (fun h => by rw [← h]; exact hq) (fun h => by rw [← h]; exact hq))

theorem own_range {S : List (Bytes × List Int)} (hS : SchemesOK S) {x : Bytes × Int} (hx : x ∈ own S) :
    -65537 ≤ x.2 ∧ x.2 ≤ 65536 := by
  obtain ⟨ps, hm, hq⟩ := mem_own.mp hx
  exact (hS.ports _ hm).range _ hq

theorem own_cover (S : List (Bytes × List Int)) (hS : SchemesOK S) (h sch' : Bytes) (p' : Int) (hp' : 0 ≤ p' ∧ p' ≤ 65535) :
    ((own S).map ownE).any (fun e => ecov e h sch' p') = containsPort S sch' p' (!h.isEmpty) := by
  rw [containsPort_eq_any S hS, List.any_map]
  refine any_congr _ _ _ fun x _ => ?_
  simp only [Function.comp, ecov, ownE, entryCovers_nil_key]
  congr 1
  rw [Bool.eq_iff_iff]
  simpa using (code_match ⟨hp'.1, by omega⟩).symm

/-- The statement of `den_spec` as a predicate of the node, so that the proof can follow the nested recursion of
`Node` by equations (`| .mk suf S K => …`, mutually with the list of children); likewise the other `…Spec` below. -/
def DenSpec (n : Node) : Prop :=
  Inv n → ∀ (h sch' : Bytes) (p' : Int), 0 ≤ p' ∧ p' ≤ 65535 →
    contains n h sch' p' = (entries n).any (fun e => ecov e h sch' p')

def DenKidsSpec (K : List (Nat × Node)) : Prop :=
  KidsInv K → ∀ (h sch' : Bytes) (p' : Int), 0 ≤ p' ∧ p' ≤ 65535 →
    kidsLookup K h sch' p' = (entriesKids K).any (fun e => ecov e h sch' p')

theorem ecov_prepend (k : Bytes) (e : Entry) (h sch' : Bytes) (p' : Int) :
    ecov (pre k e) (k ++ h) sch' p' = ecov e h sch' p' := by
  unfold ecov
  exact entryCovers_cancel k e.1 e.2.1 _ _ h sch' p'

theorem ecov_not_prefix (k : Bytes) (e : Entry) (h sch' : Bytes) (p' : Int)
    (hn : ¬ k <+: h) : ecov (pre k e) h sch' p' = false :=
  entryCovers_not_prefix fun hh => hn ((List.prefix_append k _).trans hh)

theorem child_any (c : Node) (h sch' : Bytes) (p' : Int) :
    (childEntries c).any (fun e => ecov e h sch' p') =
      match stripPrefix c.suf h with
      | none => false
      | some h' => (entries c).any (fun e => ecov e h' sch' p') := by
  rw [childEntries, List.any_map]
  cases hsp : stripPrefix c.suf h with
  | none =>
    simp only [List.any_eq_false, Function.comp]
    intro e _
    rw [ecov_not_prefix c.suf e _ _ _ (stripPrefix_eq_none_iff.mp hsp)]
    simp
  | some h' =>
    rw [stripPrefix_some_iff.mp hsp]
    congr 1
    funext e
    exact ecov_prepend c.suf e h' sch' p'

mutual
theorem den_spec : (n : Node) → DenSpec n
  | .mk suf S K => by
    intro hinv h sch' p' hp'
    obtain ⟨hS, hK⟩ := Inv_mk.mp hinv
    rw [entries_mk, List.any_append, own_cover S hS h sch' p' hp', ← den_kids_spec K hK h sch' p' hp', contains_mk]

theorem den_kids_spec : (K : List (Nat × Node)) → DenKidsSpec K
  | [] => by
    intro _ h sch' p' _
    rw [entriesKids_nil, kidsLookup_nil]
    rfl
  | (l, c) :: rest => by
    intro hK h sch' p' hp'
    obtain ⟨_, hc, _, hrest⟩ := KidsInv_cons.mp hK
    rw [entriesKids_cons, List.any_append, ← den_kids_spec rest hrest h sch' p' hp', kidsLookup_cons hK, child_any,
      childLookup]
    cases stripPrefix c.suf h with
    | none => rfl
    | some h' => simp only [den_spec c hc h' sch' p' hp']
end

theorem own_cons (e : Bytes × List Int) (S : List (Bytes × List Int)) :
    own (e :: S) = e.2.map (fun c => (e.1, c)) ++ own S := by
  simp [own]

theorem own_addScheme (S : List (Bytes × List Int)) (sch : Bytes) (c : Int) (w : Bool) (x : Bytes × Int)
    (hx : x ∈ own (addScheme sch c w S)) : x ∈ own S ∨ x = (sch, c) := by
  fun_induction addScheme sch c w S with
  | case1 => exact Or.inr (by simpa [own] using hx)
  | case2 s ps rest heq ps' =>
    obtain rfl : s = sch := by simpa using heq
    rw [own_cons] at hx ⊢
    simp only [List.mem_append, List.mem_map] at hx ⊢
    rcases hx with ⟨c', hc', rfl⟩ | hx
    · rcases (insertSorted_int_mem _ _ _).mp hc' with rfl | hc'
      · exact Or.inr rfl
      · refine Or.inl (Or.inl ⟨c', ?_, rfl⟩)
        simp only [ps'] at hc'
        split at hc'
        · exact (deleteSameSign_sublist _ _).subset hc'
        · exact hc'
    · exact Or.inl (Or.inr hx)
  | case3 s ps rest hne hlt =>
    rw [own_cons, List.map_singleton, List.singleton_append] at hx
    exact (List.mem_cons.mp hx).symm
  | case4 s ps rest hne hlt ih =>
    rw [own_cons] at hx ⊢
    simp only [List.mem_append] at hx ⊢
    rcases hx with hx | hx
    · exact Or.inl (Or.inl hx)
    · exact (ih hx).imp Or.inr id

theorem own_addPort (S : List (Bytes × List Int)) (sch : Bytes) (p : Int) (w : Bool) (x : Bytes × Int)
    (hx : x ∈ own (addPort S sch p w)) : x ∈ own S ∨ x = (sch, code p w) := by
  unfold addPort at hx
  split at hx
  · exact Or.inl hx
  · exact own_addScheme S sch _ _ x hx

theorem entries_suf_irrel (s1 s2 : Bytes) (S : List (Bytes × List Int)) (K : List (Nat × Node)) :
    entries (.mk s1 S K) = entries (.mk s2 S K) := by rw [entries_mk, entries_mk]

theorem childEntries_mk (suf : Bytes) (S : List (Bytes × List Int)) (K : List (Nat × Node)) :
    childEntries (.mk suf S K) = ((own S).map ownE ++ entriesKids K).map (pre suf) := by
  rw [childEntries, entries_mk]; rfl

theorem own_addPort_nil (sch : Bytes) (p : Int) (w : Bool) : own (addPort [] sch p w) = [(sch, code p w)] := by
  simp [addPort, containsPort, lookupScheme, addScheme, own]

theorem leaf_childEntries (s sch : Bytes) (p : Int) (w : Bool) : childEntries (leaf s sch p w) = [(s, sch, code p w)] := by
  rw [leaf, childEntries_mk, own_addPort_nil, entriesKids_nil]
  simp [pre, ownE]

/-- Splitting divides the child's suffix between two nodes, yet every old entry keeps its key. -/
theorem insertChild_split (c : Node) (s sch : Bytes) (p : Int) (w : Bool) (h : ¬ c.suf <+: s) :
    (childEntries (insertChild c s sch p w)).Perm ((s, sch, code p w) :: childEntries c) := by
  obtain ⟨common, restS, l1, rc, rfl, hcs, hd⟩ := diverge_of_not_prefix h
  cases c with
  | mk csuf cS cK =>
    obtain rfl : csuf = common ++ l1 :: rc := hcs
    have hold : childEntries (mk (common ++ l1 :: rc) cS cK) = (childEntries (mk (l1 :: rc) cS cK)).map (pre common) := by
      rw [childEntries_mk, childEntries_mk, List.map_map]
      exact List.map_congr_left fun e _ => by simp [pre]
    rw [insertChild_split_eq _ _ _ _ _ _ _ _ _ hd, hold]
    cases restS with
    | nil =>
      simp only [childEntries_mk, own_addPort_nil, entriesKids_cons, entriesKids_nil]
      simp [pre, ownE]
    | cons l2 rs =>
      have hleaf : (childEntries (leaf (l2 :: rs) sch p w)).map (pre common) = [(common ++ l2 :: rs, sch, code p w)] := by
        rw [leaf_childEntries]; rfl
      simp only [childEntries_mk (suf := common), own, List.flatMap_nil, List.map_nil, List.nil_append]
      split <;> simp only [entriesKids_cons, entriesKids_nil, List.append_nil, List.map_append, hleaf]
      · exact .refl _
      · exact List.perm_append_comm

def StoreSpec (n : Node) : Prop :=
  ∀ (s sch : Bytes) (p : Int) (w : Bool) (e : Bytes × Bytes × Int),
    e ∈ entries (insert n s sch p w) → e ∈ entries n ∨ e = (s, sch, code p w)

def StoreKidsSpec (K : List (Nat × Node)) : Prop :=
  ∀ (label : Nat) (srest sch : Bytes) (p : Int) (w : Bool) (e : Bytes × Bytes × Int),
    e ∈ entriesKids (insertKids K label (label :: srest) sch p w) → e ∈ entriesKids K ∨ e = (label :: srest, sch, code p w)

theorem insertChild_store (c : Node) (ih : StoreSpec c) (s sch : Bytes) (p : Int) (w : Bool) (e : Bytes × Bytes × Int)
    (he : e ∈ childEntries (insertChild c s sch p w)) : e ∈ childEntries c ∨ e = (s, sch, code p w) := by
  by_cases h : c.suf <+: s
  · obtain ⟨r, rfl⟩ := h
    rw [insertChild_descend, childEntries, insert_suf] at he
    obtain ⟨e', he', rfl⟩ := List.mem_map.mp he
    rcases ih r sch p w e' he' with h | rfl
    · exact Or.inl (List.mem_map_of_mem h)
    · exact Or.inr rfl
  · exact (List.mem_cons.mp ((insertChild_split c s sch p w h).mem_iff.mp he)).symm

mutual
theorem store_spec : (n : Node) → StoreSpec n
  | .mk suf S K => by
    intro s sch p w e he
    cases s with
    | nil =>
      rw [insert] at he
      rw [entries_mk] at he ⊢
      simp only [List.mem_append, List.mem_map] at he ⊢
      rcases he with ⟨x, hx, rfl⟩ | he
      · rcases own_addPort S sch p w x hx with h | h
        · exact Or.inl (Or.inl ⟨x, h, rfl⟩)
        · subst h; exact Or.inr rfl
      · exact Or.inl (Or.inr he)
    | cons label srest =>
      rw [insert] at he
      split at he
      · exact Or.inl he
      · rw [entries_mk] at he ⊢
        simp only [List.mem_append] at he ⊢
        rcases he with he | he
        · exact Or.inl (Or.inl he)
        · rcases store_kids_spec K label srest sch p w e he with h | h
          · exact Or.inl (Or.inr h)
          · exact Or.inr h

theorem store_kids_spec : (K : List (Nat × Node)) → StoreKidsSpec K
  | [] => by
    intro label srest sch p w e he
    rw [insertKids, entriesKids_cons, entriesKids_nil, List.append_nil] at he
    rw [leaf_childEntries] at he
    exact Or.inr (List.mem_singleton.mp he)
  | (l, c) :: rest => by
    intro label srest sch p w e he
    rw [insertKids] at he
    split at he
    · rw [entriesKids_cons] at he
      rcases List.mem_append.mp he with h | h
      · rw [leaf_childEntries] at h
        exact Or.inr (List.mem_singleton.mp h)
      · exact Or.inl h
    · split at he
      · rw [entriesKids_cons] at he ⊢
        rcases List.mem_append.mp he with h | h
        · rcases insertChild_store c (store_spec c) _ sch p w e h with h' | h'
          · exact Or.inl (List.mem_append_left _ h')
          · exact Or.inr h'
        · exact Or.inl (List.mem_append_right _ h)
      · rw [entriesKids_cons] at he ⊢
        rcases List.mem_append.mp he with h | h
        · exact Or.inl (List.mem_append_left _ h)
        · rcases store_kids_spec rest label srest sch p w e h with h' | h'
          · exact Or.inl (List.mem_append_right _ h')
          · exact Or.inr h'
end

def ElemsSpec (n : Node) : Prop :=
  ∀ acc : Bytes, elems n acc = (entries n).map (fun e => renderEntry e.2.1 ((n.suf ++ e.1).reverse ++ acc) e.2.2)

def ElemsKidsSpec (K : List (Nat × Node)) : Prop :=
  ∀ host : Bytes, elemsKids K host = (entriesKids K).map (fun e => renderEntry e.2.1 (e.1.reverse ++ host) e.2.2)

theorem own_render (S : List (Bytes × List Int)) (host : Bytes) :
    (S.flatMap fun (scheme, ports) => ports.map (renderEntry scheme host)) =
      (own S).map (fun e => renderEntry e.1 host e.2) := by
  simp only [own, List.map_flatMap, List.map_map, Function.comp_def]

mutual
theorem elems_spec : (n : Node) → ElemsSpec n
  | .mk suf S K => by
    intro acc
    rw [elems, entries_mk, List.map_append, List.map_map, elems_kids_spec K (suf.reverse ++ acc), own_render]
    -- reducible only: otherwise `congr` first tries to see the two sides equal by unfolding `renderEntry`
    with_reducible congr 1
    · exact List.map_congr_left fun e _ => by simp [Node.suf, ownE]
    · exact List.map_congr_left fun e _ => by simp [Node.suf, List.reverse_append]

theorem elems_kids_spec : (K : List (Nat × Node)) → ElemsKidsSpec K
  | [] => by intro host; rw [elemsKids, entriesKids_nil]; rfl
  | (l, c) :: rest => by
    intro host
    rw [elemsKids, entriesKids_cons, childEntries, List.map_append, List.map_map, elems_spec c host,
      elems_kids_spec rest host]
    congr 1
end

/-- What `Tree.Elems` renders for a stored entry of the root. -/
def renderE (e : Entry) : Bytes := renderEntry e.2.1 e.1.reverse e.2.2

theorem tree_elems_eq (t : Tree) (ht : t.suf = []) : Tree.elems t = sortBy Bytes.lt ((entries t).map renderE) := by
  unfold Tree.elems
  rw [elems_spec t []]
  congr 1
  apply List.map_congr_left
  intro e _
  simp only [ht, List.nil_append, List.append_nil, renderE]

theorem tree_elems_mem (t : Tree) (ht : t.suf = []) (x : Bytes) :
    x ∈ Tree.elems t ↔ ∃ e ∈ entries t, x = renderEntry e.2.1 e.1.reverse e.2.2 := by
  rw [tree_elems_eq t ht, (sortBy_perm Bytes.lt _).mem_iff, List.mem_map]
  constructor
  · rintro ⟨e, he, rfl⟩; exact ⟨e, he, rfl⟩
  · rintro ⟨e, he, rfl⟩; exact ⟨e, he, rfl⟩

end Node
end Cors
