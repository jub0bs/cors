import CorsVerif.Model.Basic
import CorsVerif.Proofs.Lists
/-
  The string functions of Model/Basic.lean (`strings.CutPrefix`, `HasPrefix`, `IndexByte` as `cutAt`, `Split`, `Join`):
  when each returns what, and that splitting and joining at a byte undo each other.
-/
namespace Cors
namespace Bytes

theorem not_mem_of_all {p : Nat → Bool} {l : Bytes} {c : Nat} (h : l.all p = true) (hc : p c = false) : c ∉ l :=
  fun hm => by rw [List.all_eq_true.mp h c hm] at hc; cases hc

theorem cutPrefix_eq_some {s p r : Bytes} : cutPrefix s p = some r ↔ s = p ++ r := by
  fun_induction cutPrefix s p <;> simp_all

theorem hasPrefix_iff {s p : Bytes} : hasPrefix s p = true ↔ ∃ t, s = p ++ t := by
  fun_induction hasPrefix s p <;> simp_all

theorem cutAt_eq_none {c : Nat} {l : Bytes} : cutAt c l = none ↔ c ∉ l := by
  fun_induction cutAt c l <;> simp_all [Ne.symm]

theorem cutAt_some {c : Nat} {l e rest : Bytes} (h : cutAt c l = some (e, rest)) :
    l = e ++ c :: rest ∧ c ∉ e := by
  fun_induction cutAt c l generalizing e rest
  case case1 => cases h
  case case2 => cases h; simp_all
  case case3 => cases h
  case case4 a as hac l r hc ih =>
    cases h
    obtain ⟨h1, h2⟩ := ih hc
    exact ⟨by rw [h1]; rfl, List.not_mem_cons_of_ne_of_not_mem (fun hh => hac (beq_iff_eq.mpr hh.symm)) h2⟩

theorem cutAt_append {c : Nat} {e rest : Bytes} (h : c ∉ e) : cutAt c (e ++ c :: rest) = some (e, rest) := by
  induction e <;> simp_all [cutAt, Ne.symm]

theorem splitOn_of_not_mem {c : Nat} {l : Bytes} (h : c ∉ l) : splitOn c l = [l] := by
  induction l <;> simp_all [splitOn, Ne.symm]

theorem splitOn_append {c : Nat} {e rest : Bytes} (h : c ∉ e) :
    splitOn c (e ++ c :: rest) = e :: splitOn c rest := by
  induction e <;> simp_all [splitOn, Ne.symm]

theorem splitOn_join (c : Nat) (ns : List Bytes) (hnn : ns ≠ []) (hc : ∀ n ∈ ns, c ∉ n) :
    splitOn c (join c ns) = ns := by
  induction ns with
  | nil => exact absurd rfl hnn
  | cons n rest ih =>
    cases rest with
    | nil => simp [join, splitOn_of_not_mem (hc n List.mem_cons_self)]
    | cons r rs =>
      simp only [join]
      rw [splitOn_append (hc n List.mem_cons_self)]
      rw [ih (by simp) (fun x hx => hc x (List.mem_cons_of_mem _ hx))]

theorem splitOn_ne_nil (c : Nat) (x : Bytes) : splitOn c x ≠ [] := by
  fun_induction splitOn c x <;> simp

theorem splitOn_snoc (c : Nat) (x : Bytes) : splitOn c (x ++ [c]) = splitOn c x ++ [[]] := by
  fun_induction splitOn c x <;> simp_all [splitOn, splitOn_ne_nil]

theorem join_cons (c a : Nat) (x : Bytes) (xs : List Bytes) : join c ((a :: x) :: xs) = a :: join c (x :: xs) := by
  cases xs <;> rfl

theorem join_head? (c : Nat) {l : Bytes} (hl : l ≠ []) (rest : List Bytes) : (join c (l :: rest)).head? = l.head? := by
  obtain ⟨a, t, rfl⟩ := List.exists_cons_of_ne_nil hl
  rw [join_cons]
  rfl

theorem join_ne_nil (c : Nat) {l : Bytes} (hl : l ≠ []) (rest : List Bytes) : join c (l :: rest) ≠ [] := by
  obtain ⟨a, t, rfl⟩ := List.exists_cons_of_ne_nil hl
  rw [join_cons]
  exact List.cons_ne_nil _ _

theorem join_splitOn (c : Nat) (s : Bytes) : join c (splitOn c s) = s := by
  fun_induction splitOn c s
  case case1 => rfl
  case case2 a as h ih =>
    obtain ⟨x, xs, hs⟩ := List.exists_cons_of_ne_nil (splitOn_ne_nil c as)
    cases beq_iff_eq.mp h
    rw [hs] at ih ⊢
    simp [join, ih]
  case case3 a as _ hs _ => exact absurd hs (splitOn_ne_nil c as)
  case case4 a as _ x xs hs ih => rw [join_cons, ← hs, ih]

theorem join_getLast? (c : Nat) (ls : List Bytes) {l : Bytes} (h : ls.getLast? = some l) (hne : l ≠ []) :
    (join c ls).getLast? = l.getLast? := by
  fun_induction join c ls
  case case1 => cases h
  case case2 x => cases h; rfl
  case case3 x y xs ih =>
    have ih := ih (by simpa [List.getLast?_cons_cons] using h)
    cases hz : l.getLast? with
    | none => exact absurd (List.getLast?_eq_none_iff.mp hz) hne
    | some z => rw [List.getLast?_append, List.getLast?_cons, ih, hz]; rfl

theorem takeWhile_append_stop {p : Nat → Bool} (l r : Bytes) (hl : l.all p = true) (hr : r.head?.all (fun c => !p c) = true) :
    (l ++ r).takeWhile p = l ∧ (l ++ r).dropWhile p = r := by
  have hl' := List.all_eq_true.mp hl
  rw [List.takeWhile_append_of_pos hl', List.dropWhile_append_of_pos hl']
  cases r with
  | nil => simp
  | cons c t => simp_all

end Bytes
end Cors
