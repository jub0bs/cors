import CorsVerif.Proofs.RenderIdem
import CorsVerif.Proofs.Stable
import CorsVerif.Proofs.Accepted
/-
  Trees built from lists of origin strings, and rebuilt from what `Tree.Elems` shows of them (the
  origins part of C06).  Every stored entry renders to a string that parses back to its pattern
  (`entry_parses_back`), so a tree rebuilt from the renderings of entries `Z` stores `run [] Z`
  (`rebuild_entries`).  Insertions add up coverages, hence the rebuilt tree accepts what the first one
  accepts (`contains_rebuild`); what `Config()` shows for an acceptable `Origins` field is acceptable
  again (`originsOf_acceptable`).  `Elems` sorts, so the survivors of a rebuild from a sorted list are
  shown in their original order (`elems_rebuild`); with `norm_norm` the list is a fixed point after one
  round trip (`origins_stable`, `originsOf_stable`: C06, last sentence).
-/
namespace Cors
open Node RoundTrip
namespace TreeRT

theorem fold_suf (ps : List Pattern) (t : Tree) : (ps.foldl Tree.insert t).suf = t.suf :=
  List.foldlRecOn (motive := fun u => u.suf = t.suf) ps Tree.insert rfl fun u hu p _ => by rw [tree_insert_eq, insert_suf, hu]

/-- Membership only, and without the invariant; what exactly is stored is `fold_run`. -/
theorem fold_entries (ps : List Pattern) (t : Tree) (e : Bytes × Bytes × Int)
    (he : e ∈ entries (ps.foldl Tree.insert t)) : e ∈ entries t ∨ ∃ p ∈ ps, e = entryOf p := by
  induction ps generalizing t with
  | nil => exact Or.inl he
  | cons p ps ih =>
    rw [List.foldl_cons] at he
    rcases ih _ he with h | ⟨q, hq, rfl⟩
    · rw [tree_insert_eq] at h
      rcases store_spec t _ _ _ _ e h with h' | h'
      · exact Or.inl h'
      · exact Or.inr ⟨p, List.mem_cons_self, h'⟩
    · exact Or.inr ⟨q, List.mem_cons_of_mem _ hq, rfl⟩

theorem empty_entries : entries Node.empty = [] := by
  unfold Node.empty
  rw [entries_mk, entriesKids_nil]
  rfl

theorem build_suf (ext : Ext) (raws : List Bytes) : (build ext raws).suf = [] := by
  unfold build; rw [fold_suf]; rfl

/-- The port bound needs no hypothesis on the oracle. -/
theorem parsed_port {ext : Ext} {raws : List Bytes} {p : Pattern} (hp : p ∈ parsedPatterns ext raws) : p.port ≤ 65536 := by
  obtain ⟨raw, _, _, hpp⟩ := mem_parsed.mp hp
  exact (parsePattern_eq_ok.mp hpp).port_le

theorem build_inv (ext : Ext) (raws : List Bytes) : Inv (build ext raws) :=
  fold_inv _ (fun _ => parsed_port) _ Inv_empty

theorem build_entries (ext : Ext) (raws : List Bytes) :
    (entries (build ext raws)).Perm (run [] ((parsedPatterns ext raws).map entryOf)) :=
  empty_entries ▸ (fold_run _ (fun _ => parsed_port) Node.empty Inv_empty).2

theorem entry_parses_back (ext : Ext) (hext : ∀ h info, ext.ip6 h = some info → h.head? ≠ some 42) (raws : List Bytes) :
    ∀ e ∈ entries (build ext raws), ∃ p ∈ parsedPatterns ext raws,
      entryOf p = e ∧ renderE e ≠ Validate.star ∧ Pat.parsePattern ext (renderE e) = .ok p := by
  intro e he
  rcases fold_entries _ _ e he with h | ⟨p, hp, rfl⟩
  · rw [empty_entries] at h; cases h
  · obtain ⟨raw, _, _, hpp⟩ := mem_parsed.mp hp
    have hre : Pat.parsePattern ext (renderOf p) = .ok p := RenderIdem.parse_render ext (C01_parsed ext hext raw p hpp) hpp
    exact ⟨p, hp, rfl, (parsePattern_eq_ok.mp hre).notStar, hre⟩

/-- The pattern a string parses to (only used on strings that do parse). -/
def parseOr (ext : Ext) (x : Bytes) : Pattern :=
  match Pat.parsePattern ext x with
  | .ok p => p
  | .error _ => default

theorem parsed_map (ext : Ext) (L : List Bytes)
    (h : ∀ x ∈ L, x ≠ Validate.star ∧ ∃ p, Pat.parsePattern ext x = .ok p) :
    parsedPatterns ext L = L.map (parseOr ext) := by
  induction L with
  | nil => rfl
  | cons x xs ih =>
    obtain ⟨hs, p, hp⟩ := h x List.mem_cons_self
    have hs' : (x == Validate.star) = false := by simpa using hs
    unfold parsedPatterns at ih ⊢
    rw [List.filterMap_cons]
    simp only [hs', Bool.false_eq_true, if_false, hp, List.map_cons]
    rw [ih (fun y hy => h y (List.mem_cons_of_mem _ hy))]
    congr 1
    unfold parseOr; rw [hp]

theorem rebuild_entries (ext : Ext) (hext : ∀ h info, ext.ip6 h = some info → h.head? ≠ some 42) (raws : List Bytes)
    (Z : List Entry) (hZ : ∀ e ∈ Z, e ∈ entries (build ext raws)) :
    (entries (build ext (Z.map renderE))).Perm (run [] Z) := by
  have hback := entry_parses_back ext hext raws
  have hparse : ∀ x ∈ Z.map renderE, x ≠ Validate.star ∧ ∃ p, Pat.parsePattern ext x = .ok p := by
    intro x hx
    obtain ⟨e, he, rfl⟩ := List.mem_map.mp hx
    obtain ⟨p, _, _, h1, hp⟩ := hback e (hZ e he)
    exact ⟨h1, p, hp⟩
  have hents : (parsedPatterns ext (Z.map renderE)).map entryOf = Z := by
    rw [parsed_map ext _ hparse, List.map_map, List.map_map]
    refine map_eq_self fun e he => ?_
    obtain ⟨p, _, hpe, _, hp⟩ := hback e (hZ e he)
    simp only [Function.comp, parseOr, hp, hpe]
  have := build_entries ext (Z.map renderE)
  rwa [hents] at this

/-- The entries of a tree built from strings, in the order in which `Elems` shows them. -/
theorem elems_entries (ext : Ext) (hext : ∀ h info, ext.ip6 h = some info → h.head? ≠ some 42) (raws : List Bytes) :
    ∃ Z : List Entry, Z.Perm (entries (build ext raws)) ∧ Z.map renderE = Tree.elems (build ext raws) := by
  have hE := tree_elems_eq (build ext raws) (build_suf ext raws)
  obtain ⟨hZp, hZr⟩ := perm_map_inv (g := fun x => entryOf (parseOr ext x)) (S := entries (build ext raws)) (f := renderE)
    (fun e he => by
      obtain ⟨p, _, hpe, _, hp⟩ := entry_parses_back ext hext raws e he
      simp only [parseOr, hp, hpe])
    (hE ▸ sortBy_perm _ _)
  exact ⟨_, hZp, hZr⟩

theorem elems_mem (ext : Ext) (hext : ∀ h info, ext.ip6 h = some info → h.head? ≠ some 42) (raws : List Bytes)
    {x : Bytes} (hx : x ∈ Tree.elems (build ext raws)) :
    x ≠ Validate.star ∧ ∃ p ∈ parsedPatterns ext raws, Pat.parsePattern ext x = .ok p := by
  obtain ⟨e, he, rfl⟩ := (tree_elems_mem _ (build_suf ext raws) x).mp hx
  obtain ⟨p, hp, _, hns, hpp⟩ := entry_parses_back ext hext raws e he
  exact ⟨hns, p, hp, hpp⟩

theorem elems_ne_nil (ext : Ext) (raws : List Bytes)
    (h : parsedPatterns ext raws ≠ []) : Tree.elems (build ext raws) ≠ [] := by
  have h1 : run [] ((parsedPatterns ext raws).map entryOf) ≠ [] := run_ne_nil (Or.inr (by simpa using h))
  intro h0
  apply h1
  have hlen := congrArg List.length h0
  rw [tree_elems_eq _ (build_suf ext raws), (sortBy_perm _ _).length_eq, List.length_map,
    (build_entries ext raws).length_eq] at hlen
  exact List.eq_nil_of_length_eq_zero hlen

theorem contains_rebuild (ext : Ext) (hext : ∀ h info, ext.ip6 h = some info → h.head? ≠ some 42) (raws : List Bytes)
    (o : Origin) (ho : o.port ≤ 65535) :
    Tree.contains (build ext (Tree.elems (build ext raws))) o = Tree.contains (build ext raws) o := by
  obtain ⟨Z, hZp, hZr⟩ := elems_entries ext hext raws
  have hcodes : ∀ e ∈ Z, e.2.2 ≤ 65536 := by
    intro e he
    obtain ⟨p, hp, rfl, _⟩ := entry_parses_back ext hext raws e (hZp.subset he)
    have := parsed_port hp
    exact (code_range _ _ ⟨by omega, by omega⟩).2
  have hp' : (0 : Int) ≤ o.port ∧ (o.port : Int) ≤ 65535 := ⟨by omega, by omega⟩
  unfold Tree.contains
  rw [den_spec _ (build_inv ext _) _ _ _ hp', den_spec _ (build_inv ext _) _ _ _ hp', ← hZr,
    (rebuild_entries ext hext raws Z fun e he => hZp.subset he).any_eq, run_any_ecov _ _ hcodes,
    List.any_nil, Bool.false_or, hZp.any_eq]

/-- What `Config()` shows as `Origins` for a configuration whose `Origins` field is `raws`. -/
def originsOf (ext : Ext) (cred pna tolI tolP : Bool) (raws : List Bytes) : List Bytes :=
  if (Validate.origins ext cred pna tolI tolP raws).2.isEmpty then [Validate.star]
  else Tree.elems (Validate.origins ext cred pna tolI tolP raws).2

/-- Whether a listed string raises an error depends on the pattern it parses to, not on its spelling. -/
theorem rawErrs_nil_congr (ext : Ext) (cred pnaAny tolI tolP : Bool) {raw raw' : Bytes} {p : Pattern}
    (h1 : raw ≠ Validate.star) (h2 : raw' ≠ Validate.star)
    (hp : Pat.parsePattern ext raw = .ok p) (hp' : Pat.parsePattern ext raw' = .ok p)
    (h : rawErrs ext cred pnaAny tolI tolP raw = []) : rawErrs ext cred pnaAny tolI tolP raw' = [] := by
  unfold rawErrs at h ⊢
  rw [if_neg (by simpa using h1), hp] at h
  rw [if_neg (by simpa using h2), hp']
  -- a list of this shape is empty iff none of its conditions holds, whatever string the errors quote
  simp only [List.append_eq_nil_iff, ite_eq_right_iff, List.cons_ne_nil, imp_false] at h ⊢
  exact h

theorem originsOf_star (ext : Ext) (cred pna tolI tolP : Bool) (raws : List Bytes)
    (hs : raws.contains Validate.star = true) : originsOf ext cred pna tolI tolP raws = [Validate.star] := by
  unfold originsOf
  rw [origins_tree, hs]
  rfl

theorem originsOf_plain (ext : Ext) (hext : ∀ h info, ext.ip6 h = some info → h.head? ≠ some 42)
    (cred pna tolI tolP : Bool) (raws : List Bytes) (h : Acceptable ext cred pna tolI tolP raws)
    (hs : raws.contains Validate.star = false) :
    originsOf ext cred pna tolI tolP raws = Tree.elems (build ext raws) ∧
    Acceptable ext cred pna tolI tolP (Tree.elems (build ext raws)) ∧
    (Tree.elems (build ext raws)).contains Validate.star = false := by
  refine ⟨?_, ⟨elems_ne_nil ext raws (h.parsed_ne hs), fun x hx => ?_⟩, ?_⟩
  · unfold originsOf
    rw [origins_tree, hs, if_neg Bool.false_ne_true, build_nonempty ext raws (h.parsed_ne hs)]
    rfl
  · -- `x` parses to a listed pattern, and is as clean as the string that pattern was listed as
    obtain ⟨hns, p, hp, hpp⟩ := elems_mem ext hext raws hx
    obtain ⟨raw, hr, hrs, hrp⟩ := mem_parsed.mp hp
    exact rawErrs_nil_congr ext cred pna tolI tolP hrs hns hrp hpp (h.clean raw hr)
  · exact Bool.eq_false_iff.mpr fun hc => (elems_mem ext hext raws (List.contains_iff_mem.mp hc)).1 rfl

theorem originsOf_acceptable (ext : Ext) (hext : ∀ h info, ext.ip6 h = some info → h.head? ≠ some 42)
    (cred pna tolI tolP : Bool) (raws : List Bytes) (h : Acceptable ext cred pna tolI tolP raws) :
    Acceptable ext cred pna tolI tolP (originsOf ext cred pna tolI tolP raws) := by
  cases hs : raws.contains Validate.star with
  | true =>
    rw [originsOf_star ext cred pna tolI tolP raws hs]
    refine ⟨by simp, ?_⟩
    intro raw hr
    have : raw = Validate.star := by simpa using hr
    subst this
    exact h.clean _ (List.contains_iff_mem.mp hs)
  | false =>
    obtain ⟨e1, a1, _⟩ := originsOf_plain ext hext cred pna tolI tolP raws h hs
    rw [e1]; exact a1

theorem elems_rebuild (ext : Ext) (hext : ∀ h info, ext.ip6 h = some info → h.head? ≠ some 42) (raws : List Bytes)
    (Z : List Entry) (hZ : ∀ e ∈ Z, e ∈ entries (build ext raws)) (hs : SortedB (Z.map renderE)) :
    Tree.elems (build ext (Z.map renderE)) = (norm Z).map renderE := by
  rw [tree_elems_eq _ (build_suf ext _)]
  -- the survivors are a sublist of `Z`, so their renderings are sorted already
  apply sortBy_of_sorted
  · exact List.Pairwise.sublist ((norm_sublist Z).map renderE) hs
  · exact ((rebuild_entries ext hext raws Z hZ).map renderE).trans ((List.reverse_perm _).symm.map renderE)

/-- `Origins` is stable after one round trip.  Start from a list `raws`; let
`E1 = Elems(build raws)` (what the first `Config()` shows), `E2 = Elems(build E1)` (what `Config()`
shows after `Reconfigure(Config())`), `E3 = Elems(build E2)`.  Then `E3 = E2`: literally the same
list, whatever redundant patterns `raws` contained and in whatever order. -/
theorem origins_stable (ext : Ext) (hext : ∀ h info, ext.ip6 h = some info → h.head? ≠ some 42)
    (raws : List Bytes) :
    Tree.elems (build ext (Tree.elems (build ext (Tree.elems (build ext raws))))) =
      Tree.elems (build ext (Tree.elems (build ext raws))) := by
  obtain ⟨Z, hZp, hZr⟩ := elems_entries ext hext raws
  have hs : SortedB (Z.map renderE) := by
    rw [hZr, tree_elems_eq _ (build_suf ext raws)]; exact sortBy_sortedB _
  have hZ : ∀ e ∈ Z, e ∈ entries (build ext raws) := fun e he => hZp.subset he
  -- the second `Elems` shows `norm Z`, the third `norm (norm Z)`
  rw [← hZr, elems_rebuild ext hext raws Z hZ hs,
    elems_rebuild ext hext raws (norm Z) (fun e he => hZ e ((norm_sublist Z).subset he))
      (List.Pairwise.sublist ((norm_sublist Z).map renderE) hs), norm_norm]

/-- `Config().Origins` after one round trip is unchanged by another, `*` listed or not (C06, last sentence). -/
theorem originsOf_stable (ext : Ext) (hext : ∀ h info, ext.ip6 h = some info → h.head? ≠ some 42)
    (cred pna tolI tolP : Bool) (raws : List Bytes) (h : Acceptable ext cred pna tolI tolP raws) :
    originsOf ext cred pna tolI tolP (originsOf ext cred pna tolI tolP (originsOf ext cred pna tolI tolP raws)) =
      originsOf ext cred pna tolI tolP (originsOf ext cred pna tolI tolP raws) := by
  cases hs : raws.contains Validate.star with
  | true =>
    rw [originsOf_star ext cred pna tolI tolP raws hs]
    have h1 : originsOf ext cred pna tolI tolP [Validate.star] = [Validate.star] :=
      originsOf_star ext cred pna tolI tolP _ (by simp)
    rw [h1, h1]
  | false =>
    obtain ⟨e1, a1, s1⟩ := originsOf_plain ext hext cred pna tolI tolP raws h hs
    obtain ⟨e2, a2, s2⟩ := originsOf_plain ext hext cred pna tolI tolP _ a1 s1
    obtain ⟨e3, _, _⟩ := originsOf_plain ext hext cred pna tolI tolP _ a2 s2
    rw [e1, e2, e3]
    exact origins_stable ext hext raws

end TreeRT
end Cors
